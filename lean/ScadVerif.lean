-- Root of the library: the property modules (through them models, lemmas and specs, except Spec/ReadDouble,
-- which only the driver, the separate target `driver`, imports), the ties to the transcribed source and
-- their corollaries.  Mathlib is not a `require` of the lakefile: its modules sit in `lean --print-libdir`.
import ScadVerif.Props.C01
import ScadVerif.Props.C02
import ScadVerif.Props.C09
import ScadVerif.Props.C10
import ScadVerif.Props.C11
import ScadVerif.Props.C12
import ScadVerif.Props.C03
import ScadVerif.Props.C07
import ScadVerif.Props.C08
import ScadVerif.Props.C04
import ScadVerif.Props.C05
import ScadVerif.Props.C14
import ScadVerif.Props.C16
import ScadVerif.Props.C15
import ScadVerif.Props.C17
import ScadVerif.Props.C19
import ScadVerif.Props.C18
import ScadVerif.Props.C13
import ScadVerif.Props.C06
import ScadVerif.Tie.Chain
import ScadVerif.Tie.Emit
import ScadVerif.Tie.File
import ScadVerif.Tie.Geom
import ScadVerif.Tie.Math
import ScadVerif.Tie.Pipe
import ScadVerif.Tie.Polyhedron
import ScadVerif.Tie.Rng
import ScadVerif.Tie.ScadFns
import ScadVerif.Tie.Thread
import ScadVerif.Tie.ThreadLookup
import ScadVerif.Tie.ThreadMesh
import ScadVerif.Tie.ThreadParts
import ScadVerif.Tie.Tri
import ScadVerif.Tie.TriLoop
import ScadVerif.Tie.Viewer
import ScadVerif.Props.SrcC01
import ScadVerif.Props.SrcC02
import ScadVerif.Props.SrcC03
import ScadVerif.Props.SrcC04
import ScadVerif.Props.SrcC07
import ScadVerif.Props.SrcC08
import ScadVerif.Props.SrcC10
import ScadVerif.Props.SrcC13
import ScadVerif.Props.SrcC16
import ScadVerif.Props.SrcC18
import ScadVerif.Props.SrcC19
