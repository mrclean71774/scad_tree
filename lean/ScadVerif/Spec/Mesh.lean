/-
Specification predicates for polygons, triangulations and meshes (DESIGN §3.2), as computable
`Bool`/value functions so that the driver can evaluate them on the implementation's outputs.

* `area2`            twice the signed (shoelace) area; negative for clockwise outlines
* directed edges     a face (v₀ … vₖ) has the directed edges (v₀,v₁) … (vₖ,v₀)
* `closedOriented`   every index valid, every face has ≥ 3 pairwise distinct vertices, every directed
                     edge occurs in exactly one face and its reverse in exactly one other face
* `tilingEdges`      the triangles' directed edges are the polygon's boundary edges once each, plus
                     interior diagonals each used once in both directions
* `signedVolumeCW`   enclosed volume under the clockwise-outside convention
-/
import ScadVerif.Model.Pt
namespace ScadVerif.Spec
variable {α : Type} [Add α] [Sub α] [Mul α] [Div α] [Neg α] [OfNat α 0] [OfNat α 1]

/-- twice the signed area of a closed outline -/
def area2 (ps : List (Pt2 α)) : α :=
  match ps with
  | [] => 0
  | p0 :: _ =>
    let rec go : List (Pt2 α) → α
      | [] => 0
      | [q] => q.x * p0.y - p0.x * q.y
      | a :: b :: rest => (a.x * b.y - b.x * a.y) + go (b :: rest)
    go ps

def cross3 (a b c : Pt2 α) : α := (b.x - a.x) * (c.y - a.y) - (c.x - a.x) * (b.y - a.y)

/-- directed edges of one face -/
def faceEdges (f : List Nat) : List (Nat × Nat) :=
  match f with
  | [] => []
  | v0 :: _ =>
    let rec go : List Nat → List (Nat × Nat)
      | [] => []
      | [a] => [(a, v0)]
      | a :: b :: rest => (a, b) :: go (b :: rest)
    go f

def allEdges (faces : List (List Nat)) : List (Nat × Nat) := faces.flatMap faceEdges

def edgeKey (m : Nat) (e : Nat × Nat) : Nat := e.1 * m + e.2

/-- sorted list has no two equal neighbours -/
def sortedNodup : List Nat → Bool
  | a :: b :: rest => a != b && sortedNodup (b :: rest)
  | _ => true

def pairwiseDistinct (l : List Nat) : Bool :=
  sortedNodup (l.mergeSort (· ≤ ·))

/-- closed, consistently oriented surface -/
def closedOriented (nPoints : Nat) (faces : List (List Nat)) : Bool :=
  let m := nPoints + 1
  let es := allEdges faces
  let keys := (es.map (edgeKey m)).mergeSort (· ≤ ·)
  let revKeys := (es.map fun e => edgeKey m (e.2, e.1)).mergeSort (· ≤ ·)
  faces.all (fun f => f.length ≥ 3 && f.all (· < nPoints) && pairwiseDistinct f) &&
  sortedNodup keys && keys == revKeys

/-- which part of `closedOriented` fails (for reports) -/
def closedOrientedWhy (nPoints : Nat) (faces : List (List Nat)) : String :=
  let m := nPoints + 1
  let es := allEdges faces
  let keys := (es.map (edgeKey m)).mergeSort (· ≤ ·)
  let revKeys := (es.map fun e => edgeKey m (e.2, e.1)).mergeSort (· ≤ ·)
  if !(faces.all fun f => f.all (· < nPoints)) then "face_index_out_of_range"
  else if !(faces.all fun f => f.length ≥ 3 && pairwiseDistinct f) then "face_with_fewer_than_three_distinct_vertices"
  else if !sortedNodup keys then "directed_edge_used_by_two_faces"
  else if keys != revKeys then "edge_without_reverse_partner"
  else "ok"

/-- triangles as index triples -/
def triples : List Nat → List (List Nat)
  | a :: b :: c :: rest => [a, b, c] :: triples rest
  | _ => []

/-- the directed edges of the triangles are: every boundary edge of the n-gon exactly once
(in list direction if `sameWinding`, reversed otherwise) and every other edge once in each
direction -/
def tilingEdges (n : Nat) (tris : List Nat) (sameWinding : Bool) : Bool :=
  let m := n + 1
  let es := allEdges (triples tris)
  let boundary := (List.range n).map fun i =>
    if sameWinding then (i, (i + 1) % n) else ((i + 1) % n, i)
  let bkeys := boundary.map (edgeKey m)
  let keys := (es.map (edgeKey m)).mergeSort (· ≤ ·)
  -- remove the boundary edges (each must be present exactly once); the rest must pair up
  let bsorted := bkeys.mergeSort (· ≤ ·)
  let rec diff : List Nat → List Nat → Option (List Nat)   -- multiset difference of sorted lists
    | xs, [] => some xs
    | [], _ :: _ => none
    | x :: xs, b :: bs =>
      if x = b then diff xs bs else if x < b then (diff xs (b :: bs)).map (x :: ·) else none
  match diff keys bsorted with
  | none => false
  | some inner =>
    let innerRev := (inner.map fun k => edgeKey m (k % m, k / m)).mergeSort (· ≤ ·)
    sortedNodup keys && inner == innerRev && !(inner.any fun k => bsorted.contains (edgeKey m (k % m, k / m)))

/-- six times the signed volume with counter-clockwise-outside orientation of a fan-triangulated
face list; the library's convention is clockwise-outside, so its volume is the negative -/
def sixVolumeCCWAt (p : Nat → Pt3 α) (faces : List (List Nat)) : α :=
  faces.foldl (fun acc f =>
    match f with
    | v0 :: rest =>
      let a := p v0
      let rec fan : List Nat → α
        | b :: c :: more => Pt3.dot a (Pt3.cross (p b) (p c)) + fan (c :: more)
        | _ => 0
      acc + fan rest
    | [] => acc) 0

def sixVolumeCCW (pts : List (Pt3 α)) (faces : List (List Nat)) : α :=
  sixVolumeCCWAt (fun i => pts.getD i ⟨0, 0, 0⟩) faces

def signedVolumeCW (pts : List (Pt3 α)) (faces : List (List Nat)) [OfNatCast α] : α :=
  -(sixVolumeCCW pts faces) / lit 6

end ScadVerif.Spec
