/-
A hand transcription of the part of OpenSCAD's surface syntax the library emits
(DESIGN §3.2; there is no OpenSCAD binary in the sandbox to validate it against):

  program   := stmt*
  stmt      := ident '(' args ')' ( ';' | '{' stmt* '}' | stmt )
  args      := ε | arg (',' arg)*
  arg       := ident '=' value | value
  value     := number | string | 'true' | 'false' | 'undef' | '[' (value (',' value)*)? ']'
  number    := '-'? digit+ ('.' digit+)?          (lexer.l also allows exponents; never emitted)
  ident     := ('$' | letter | '_') (letter | digit | '_')*
  string    := '"' ( [^\\\n"] | \\ \" \n \t \r | \x[0-7]H | \uHHHH | \UHHHHHH )* '"'   (lexer.l cond_string)

White space (space, tab, CR, LF) is skipped before every token.  A leading '-' is folded into the
numeral (OpenSCAD lexes it as unary minus; on a literal the value is the same).  NUL is rejected
inside strings.  Scanner-less recursive descent; the recursive functions take fuel.
-/
import ScadVerif.Model.Chars
namespace ScadVerif.Spec

def isWs (c : Char) : Bool := c = ' ' || c = '\n' || c = '\t' || c = '\r'
def isDigit (c : Char) : Bool := '0' ≤ c && c ≤ '9'
def isLetter (c : Char) : Bool := ('a' ≤ c && c ≤ 'z') || ('A' ≤ c && c ≤ 'Z')
def isIdStart (c : Char) : Bool := isLetter c || c = '_' || c = '$'
def isIdChar (c : Char) : Bool := isLetter c || isDigit c || c = '_'
def hexVal (c : Char) : Option Nat :=
  if '0' ≤ c ∧ c ≤ '9' then some (c.toNat - '0'.toNat)
  else if 'a' ≤ c ∧ c ≤ 'f' then some (c.toNat - 'a'.toNat + 10)
  else if 'A' ≤ c ∧ c ≤ 'F' then some (c.toNat - 'A'.toNat + 10)
  else none

def skipWs (cs : List Char) : List Char := cs.dropWhile isWs

/-- a numeral without its sign -/
def numBody : List Char → List Char
  | '-' :: r => r
  | r => r
/-- `.digits` with at least one digit -/
def isFraction : List Char → Bool
  | '.' :: fr => !fr.isEmpty && fr.all isDigit
  | _ => false
/-- a numeral as Rust's `Display` prints finite numbers: `-?digits(.digits)?` -/
def IsNumeral (cs : List Char) : Bool :=
  let body := numBody cs
  let ip := body.takeWhile isDigit
  let rest := body.dropWhile isDigit
  !ip.isEmpty && (rest.isEmpty || isFraction rest)

inductive Val where
  | num (txt : List Char)
  | bool (b : Bool)
  | str (s : List Char)
  | undef
  | vec (items : List Val)
deriving Repr, BEq

structure PArg where
  name : Option (List Char)
  val : Val
deriving Repr, BEq

mutual
inductive Stmt where
  | mk (name : List Char) (args : List PArg) (body : Option StmtList)
inductive StmtList where
  | nil
  | cons (h : Stmt) (t : StmtList)
end

def StmtList.toList : StmtList → List Stmt
  | .nil => []
  | .cons h t => h :: t.toList
def StmtList.ofList : List Stmt → StmtList
  | [] => .nil
  | h :: t => .cons h (StmtList.ofList t)
def Stmt.name : Stmt → List Char | .mk n _ _ => n
def Stmt.args : Stmt → List PArg | .mk _ a _ => a
def Stmt.body : Stmt → Option StmtList | .mk _ _ b => b

/-! ### lexical classes -/
/-- identifier at the head of the input (after white space) -/
def pIdent (cs : List Char) : Option (List Char × List Char) :=
  match skipWs cs with
  | c :: rest =>
    if isIdStart c then some (c :: rest.takeWhile isIdChar, rest.dropWhile isIdChar) else none
  | [] => none

/-- unsigned digits with an optional fraction -/
def pUnsigned (cs : List Char) : Option (List Char × List Char) :=
  let ip := cs.takeWhile isDigit
  let r := cs.dropWhile isDigit
  if ip.isEmpty then none else
  match r with
  | '.' :: r' =>
    let fp := r'.takeWhile isDigit
    if fp.isEmpty then some (ip, r) else some (ip ++ '.' :: fp, r'.dropWhile isDigit)
  | _ => some (ip, r)

def pNumber (cs : List Char) : Option (List Char × List Char) :=
  match skipWs cs with
  | '-' :: r => (pUnsigned r).map fun (t, rest) => ('-' :: t, rest)
  | r => pUnsigned r

/-- body of a string literal after the opening quote -/
def pStrBody : List Char → Option (List Char × List Char)
  | [] => none
  | '"' :: rest => some ([], rest)
  | '\\' :: 'n' :: rest => (pStrBody rest).map fun (s, r) => ('\n' :: s, r)
  | '\\' :: 't' :: rest => (pStrBody rest).map fun (s, r) => ('\t' :: s, r)
  | '\\' :: 'r' :: rest => (pStrBody rest).map fun (s, r) => ('\r' :: s, r)
  | '\\' :: '\\' :: rest => (pStrBody rest).map fun (s, r) => ('\\' :: s, r)
  | '\\' :: '"' :: rest => (pStrBody rest).map fun (s, r) => ('"' :: s, r)
  | '\\' :: 'x' :: a :: b :: rest =>
    match hexVal a, hexVal b with
    | some h, some l =>
      if h < 8 then
        let v := h * 16 + l
        (pStrBody rest).map fun (s, r) => ((if v = 0 then ' ' else Char.ofNat v) :: s, r)
      else none
    | _, _ => none
  | '\\' :: 'u' :: a :: b :: c :: d :: rest =>
    match hexVal a, hexVal b, hexVal c, hexVal d with
    | some a, some b, some c, some d =>
      (pStrBody rest).map fun (s, r) => (Char.ofNat (((a * 16 + b) * 16 + c) * 16 + d) :: s, r)
    | _, _, _, _ => none
  | '\\' :: 'U' :: a :: b :: c :: d :: e :: f :: rest =>
    match hexVal a, hexVal b, hexVal c, hexVal d, hexVal e, hexVal f with
    | some a, some b, some c, some d, some e, some f =>
      (pStrBody rest).map fun (s, r) =>
        (Char.ofNat (((((a * 16 + b) * 16 + c) * 16 + d) * 16 + e) * 16 + f) :: s, r)
    | _, _, _, _, _, _ => none
  | '\\' :: _ => none
  | '\n' :: _ => none
  | c :: rest => if c = '\x00' then none else (pStrBody rest).map fun (s, r) => (c :: s, r)

/-! ### values -/
mutual
def pValue : Nat → List Char → Option (Val × List Char)
  | 0, _ => none
  | fuel + 1, cs =>
    match skipWs cs with
    | '"' :: rest => (pStrBody rest).map fun (s, r) => (.str s, r)
    | '[' :: rest =>
      match skipWs rest with
      | ']' :: r => some (.vec [], r)
      | _ => (pItems fuel rest).map fun (vs, r) => (.vec vs, r)
    | c :: rest =>
      if isDigit c || c = '-' then (pNumber (c :: rest)).map fun (t, r) => (.num t, r)
      else
        match pIdent (c :: rest) with
        | some (w, r) =>
          if w = c!"true" then some (.bool true, r)
          else if w = c!"false" then some (.bool false, r)
          else if w = c!"undef" then some (.undef, r)
          else none
        | none => none
    | [] => none
/-- one or more values separated by commas, then `]` -/
def pItems : Nat → List Char → Option (List Val × List Char)
  | 0, _ => none
  | fuel + 1, cs =>
    match pValue fuel cs with
    | none => none
    | some (v, r) =>
      match skipWs r with
      | ',' :: r' => (pItems fuel r').map fun (vs, r'') => (v :: vs, r'')
      | ']' :: r' => some ([v], r')
      | _ => none
end

/-- one argument: `name = value` or `value` -/
def pArg (fuel : Nat) (cs : List Char) : Option (PArg × List Char) :=
  match pIdent cs with
  | some (w, r) =>
    match skipWs r with
    | '=' :: r' => (pValue fuel r').map fun (v, r'') => (⟨some w, v⟩, r'')
    | _ => (pValue fuel cs).map fun (v, r'') => (⟨none, v⟩, r'')
  | none => (pValue fuel cs).map fun (v, r'') => (⟨none, v⟩, r'')

/-- arguments after `(` up to and including `)` -/
def pArgs : Nat → Nat → List Char → Option (List PArg × List Char)
  | 0, _, _ => none
  | n + 1, fuel, cs =>
    match skipWs cs with
    | ')' :: r => some ([], r)
    | _ =>
      match pArg fuel cs with
      | none => none
      | some (a, r) =>
        match skipWs r with
        | ',' :: r' =>
          -- a trailing comma before `)` is not accepted here
          (match skipWs r' with
           | ')' :: _ => none
           | _ => (pArgs n fuel r').map fun (as, r'') => (a :: as, r''))
        | ')' :: r' => some ([a], r')
        | _ => none

/-! ### statements -/
mutual
def pStmt : Nat → List Char → Option (Stmt × List Char)
  | 0, _ => none
  | fuel + 1, cs =>
    match pIdent cs with
    | none => none
    | some (name, r) =>
      match skipWs r with
      | '(' :: r1 =>
        match pArgs (r1.length + 1) (r1.length + 1) r1 with
        | none => none
        | some (args, r2) =>
          match skipWs r2 with
          | ';' :: r3 => some (.mk name args none, r3)
          | '{' :: r3 => (pBlock fuel r3).map fun (b, r4) => (.mk name args (some b), r4)
          | _ => (pStmt fuel r2).map fun (s, r4) => (.mk name args (some (.cons s .nil)), r4)
      | _ => none
/-- statements up to and including the closing `}` -/
def pBlock : Nat → List Char → Option (StmtList × List Char)
  | 0, _ => none
  | fuel + 1, cs =>
    match skipWs cs with
    | '}' :: r => some (.nil, r)
    | _ =>
      match pStmt fuel cs with
      | none => none
      | some (s, r) => (pBlock fuel r).map fun (b, r') => (.cons s b, r')
end

/-- a whole program: statements until the end of input -/
def pProgramAux : Nat → List Char → Option (List Stmt)
  | 0, _ => none
  | fuel + 1, cs =>
    match skipWs cs with
    | [] => some []
    | _ =>
      match pStmt (cs.length + 1) cs with
      | none => none
      | some (s, r) => (pProgramAux fuel r).map (s :: ·)

def parseProgram (cs : List Char) : Option (List Stmt) := pProgramAux (cs.length + 1) cs

/-! ### files: assignments of special variables followed by statements -/
inductive Top where
  | assign (name : List Char) (v : Val)
  | stmt (s : Stmt)

/-- `ident = value ;` or a statement -/
def pTop (cs : List Char) : Option (Top × List Char) :=
  match pIdent cs with
  | none => none
  | some (w, r) =>
    match skipWs r with
    | '=' :: r1 =>
      match pValue (r1.length + 1) r1 with
      | none => none
      | some (v, r2) =>
        match skipWs r2 with
        | ';' :: r3 => some (.assign w v, r3)
        | _ => none
    | _ => (pStmt (cs.length + 1) cs).map fun (s, r') => (.stmt s, r')

def pFileAux : Nat → List Char → Option (List Top)
  | 0, _ => none
  | fuel + 1, cs =>
    match skipWs cs with
    | [] => some []
    | _ =>
      match pTop cs with
      | none => none
      | some (t, r) => (pFileAux fuel r).map (t :: ·)

def parseFile (cs : List Char) : Option (List Top) := pFileAux (cs.length + 1) cs

/-- balanced braces, never negative; braces inside string literals are not counted -/
def braceDepthOK (cs : List Char) : Bool :=
  let rec go (cs : List Char) (depth : Nat) (inStr : Bool) (esc : Bool) : Bool :=
    match cs with
    | [] => depth = 0 && !inStr
    | c :: r =>
      if inStr then
        if esc then go r depth true false
        else if c = '\\' then go r depth true true
        else if c = '"' then go r depth false false
        else go r depth true false
      else if c = '"' then go r depth true false
      else if c = '{' then go r (depth + 1) false false
      else if c = '}' then (if depth = 0 then false else go r (depth - 1) false false)
      else go r depth false false
  go cs 0 false false

end ScadVerif.Spec
