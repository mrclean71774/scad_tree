/-
Model of scad_tree_math::rng — MersenneTwister (state update in place, tempering, seeding) and
the range maps, after the repair of `f32_0_1` (24 random bits over 2²⁴).
Constants come from Gen/Consts.lean, regenerated from rng.rs on every run.
-/
import ScadVerif.Gen.Consts
namespace ScadVerif.Rng
open ScadVerif

/-- `y = (u & UPPER) | (l & LOWER);  (y >> 1) ^ mag[y & 1]` -/
def twist (u l : UInt32) : UInt32 :=
  let y := (u &&& Gen.mtUpper) ||| (l &&& Gen.mtLower)
  (y >>> 1) ^^^ (if y &&& 1 = 0 then 0 else Gen.mtMatrixA)

def temper (y : UInt32) : UInt32 :=
  let y := y ^^^ (y >>> Gen.mtShiftU.toUInt32)
  let y := y ^^^ ((y <<< Gen.mtShiftS.toUInt32) &&& Gen.mtMaskB)
  let y := y ^^^ ((y <<< Gen.mtShiftT.toUInt32) &&& Gen.mtMaskC)
  y ^^^ (y >>> Gen.mtShiftL.toUInt32)

structure MT where
  buf : Array UInt32
  index : Nat

def rd (b : Array UInt32) (i : Nat) : UInt32 := b.getD i 0
def wr (b : Array UInt32) (i : Nat) (v : UInt32) : Array UInt32 := b.setIfInBounds i v

/-- `with_seed`: buffer[0] = seed, buffer[i] = 6069 · buffer[i−1] mod 2³², index = N -/
def withSeed (seed : UInt32) : MT :=
  let b0 : Array UInt32 := (Array.replicate Gen.mtN 0).setIfInBounds 0 seed
  let b := (List.range (Gen.mtN - 1)).foldl (fun b j => wr b (j + 1) (Gen.mtSeedMul * rd b j)) b0
  ⟨b, Gen.mtN⟩

/-- the three loops that regenerate the state in place -/
def regen (b : Array UInt32) : Array UInt32 :=
  let n := Gen.mtN; let m := Gen.mtM
  let b1 := (List.range (n - m)).foldl
    (fun b kk => wr b kk (rd b (kk + m) ^^^ twist (rd b kk) (rd b (kk + 1)))) b
  let b2 := (List.range (n - 1 - (n - m))).foldl
    (fun b j => let kk := j + (n - m); wr b kk (rd b (kk + m - n) ^^^ twist (rd b kk) (rd b (kk + 1)))) b1
  wr b2 (n - 1) (rd b2 (m - 1) ^^^ twist (rd b2 (n - 1)) (rd b2 0))

/-- private `next` -/
def next (mt : MT) : UInt32 × MT :=
  let (b, i) := if mt.index ≥ Gen.mtN then (regen mt.buf, 0) else (mt.buf, mt.index)
  (temper (rd b i), ⟨b, i + 1⟩)

/-- the first `n` outputs -/
def outputs : Nat → MT → List UInt32
  | 0, _ => []
  | n + 1, mt => let (y, mt') := next mt; y :: outputs n mt'

/-! ### range maps on one raw output `u` -/
/-- `f32_0_1` (repaired): 24 random bits over 2²⁴ — exact in f32, always < 1 -/
def f32_0_1 (u : UInt32) : Float32 := (u >>> 8).toFloat32 / (16777216 : Float32)
/-- `f32_0_1` as first published -/
def f32_0_1_legacy (u : UInt32) : Float32 :=
  let u := if u = 0xffffffff then u - 1 else u
  u.toFloat32 / (0xffffffff : UInt32).toFloat32

/-- `i32_minmax`: `min + ((max - min) as f32 * f32_0_1()) as i32`.  `Int32` subtraction and addition wrap;
a debug build of the source panics where `max - min` or the final sum overflows. -/
def i32Minmax (u : UInt32) (min max : Int32) : Int32 :=
  min + ((max - min).toFloat32 * f32_0_1 u).toInt32
def f32Minmax (u : UInt32) (min max : Float32) : Float32 := min + (max - min) * f32_0_1 u
def f64Minmax (u : UInt32) (min max : Float) : Float := min + (max - min) * (f32_0_1 u).toFloat

end ScadVerif.Rng
