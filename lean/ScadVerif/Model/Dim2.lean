/-
Model of scad_tree::dim2 — 2D profile generators, Béziers, chains — after the repair of the
Bézier parameter (`t = i / segments`).
-/
import ScadVerif.Model.Pt
namespace ScadVerif.Dim2
variable {α : Type} [Add α] [Sub α] [Mul α] [Div α] [Neg α] [OfNat α 0] [OfNat α 1]
  [OfNatCast α] [Trig α]

/-- `arc(start, degrees, segments)`; `assert!(degrees <= 360.0)` is the `none` -/
def arc [Cmp α] (start : Pt2 α) (degrees : α) (segments : Nat) : Option (List (Pt2 α)) :=
  if !(Cmp.leb degrees (lit 360)) then none else
  let nPts := if Cmp.eqb degrees (lit 360) then segments else segments + 1
  some ((List.range nPts).map fun i => start.rotated (cast i * -degrees / cast segments))

def circle [Cmp α] (radius : α) (segments : Nat) : Option (List (Pt2 α)) :=
  arc ⟨radius, 0⟩ (lit 360) segments
def inscribedPolygon [Cmp α] (nSides : Nat) (radius : α) : Option (List (Pt2 α)) := circle radius nSides
def circumscribedPolygon [Cmp α] (nSides : Nat) (radius : α) : Option (List (Pt2 α)) :=
  inscribedPolygon nSides (radius / dcos (lit 180 / cast nSides))

def roundedRect [Cmp α] (width height radius : α) (segments : Nat) (center : Bool) : Option (List (Pt2 α)) := do
  let tr ← arc ⟨0, radius⟩ (lit 90) segments
  let tr := Pt2s.translate tr ⟨width - radius, height - radius⟩
  let br ← arc ⟨radius, 0⟩ (lit 90) segments
  let br := Pt2s.translate br ⟨width - radius, radius⟩
  let bl ← arc ⟨-0, -radius⟩ (lit 90) segments
  let bl := Pt2s.translate bl ⟨radius, radius⟩
  let tl ← arc ⟨-radius, 0⟩ (lit 90) segments
  let tl := Pt2s.translate tl ⟨radius, height - radius⟩
  let all := tr ++ br ++ bl ++ tl
  pure (if center then Pt2s.translate all ⟨-width / lit 2, -height / lit 2⟩ else all)

def chamfer (size oversize : α) : List (Pt2 α) :=
  [⟨0, size + oversize⟩, ⟨oversize, size + oversize⟩, ⟨oversize, size⟩, ⟨size, oversize⟩,
   ⟨size + oversize, oversize⟩, ⟨oversize + size, 0⟩, ⟨0, 0⟩]

/-- Bézier parameter of sample `i` (repaired: `i / segments`) -/
def param (i segments : Nat) : α := cast i / cast segments
/-- … as first published: `i * (1 / segments)` -/
def paramLegacy (i segments : Nat) : α := cast i * (1 / cast segments)

def quadPoint (s c e : Pt2 α) (t : α) : Pt2 α :=
  s * (1 - t) * (1 - t) + c * t * (1 - t) * (lit 2 : α) + e * t * t
def cubicPoint (s c1 c2 e : Pt2 α) (t : α) : Pt2 α :=
  s * (1 - t) * (1 - t) * (1 - t) + c1 * t * (1 - t) * (1 - t) * (lit 3 : α) + c2 * t * t * (1 - t) * (lit 3 : α)
    + e * t * t * t

def quadraticBezier (s c e : Pt2 α) (segments : Nat) : List (Pt2 α) :=
  (List.range (segments + 1)).map fun i => quadPoint s c e (param i segments)
def cubicBezier (s c1 c2 e : Pt2 α) (segments : Nat) : List (Pt2 α) :=
  (List.range (segments + 1)).map fun i => cubicPoint s c1 c2 e (param i segments)

/-- the literal `0.5` (digits over a power of ten, like every decimal literal of the model) -/
def half : α := lit 5 / lit 10

def star (nPoints : Nat) (inner outer : α) : List (Pt2 α) :=
  let angle : α := -(lit 360) / cast nPoints
  (List.range nPoints).flatMap fun i =>
    [⟨dcos (angle * cast i) * inner, dsin (angle * cast i) * inner⟩,
     ⟨dcos (angle * (cast i + half)) * outer, dsin (angle * (cast i + half)) * outer⟩]

/-! ### chains -/
/-- `QuadraticBezier2D` -/
structure Quadratic (α : Type) where
  start : Pt2 α
  control : Pt2 α
  end_ : Pt2 α
  segments : Nat

structure Cubic (α : Type) where
  start : Pt2 α
  control1 : Pt2 α
  control2 : Pt2 α
  end_ : Pt2 α
  segments : Nat

structure Chain (α : Type) where
  curves : List (Cubic α)
  closed : Bool

variable [HasSqrt α]

def Chain.new (s c1 c2 e : Pt2 α) (segments : Nat) : Chain α := ⟨[⟨s, c1, c2, e, segments⟩], false⟩

/-- the curve `add` appends: starts at the chain's end, first handle along the incoming tangent -/
def nextCurve (last : Cubic α) (len : α) (c2 e : Pt2 α) (segments : Nat) : Cubic α :=
  ⟨last.end_, last.end_ + (last.end_ - last.control2).normalized * len, c2, e, segments⟩

/-- `add`; a chain built by `new`, `add` and `close` has at least one curve, so for those the `none`
arm is not reached.  On an emptied `curves` (the field is `pub`) the source panics on
`curves[len - 1]` where this returns the chain unchanged: Tie/Chain.lean ties `add` under `curves ≠ []`. -/
def Chain.add (ch : Chain α) (len : α) (c2 e : Pt2 α) (segments : Nat) : Chain α :=
  match ch.curves.getLast? with
  | some last => { ch with curves := ch.curves ++ [nextCurve last len c2 e segments] }
  | none => ch

def Chain.close (ch : Chain α) (len : α) (c2 : Pt2 α) (startLen : α) (segments : Nat) : Chain α :=
  match ch.curves with
  | [] => ch
  | first :: _ =>
    let ch1 := Chain.add { ch with closed := true } len c2 first.start segments
    match ch1.curves, ch1.curves.getLast? with
    | f :: rest, some last =>
      { ch1 with curves := { f with control1 := last.end_ + (last.end_ - last.control2).normalized * startLen } :: rest }
    | _, _ => ch1

def Chain.genPoints (ch : Chain α) : List (Pt2 α) :=
  let pts := ch.curves.foldl
    (fun acc c => acc.dropLast ++ cubicBezier c.start c.control1 c.control2 c.end_ c.segments) [⟨0, 0⟩]
  if ch.closed then pts.dropLast else pts

/-- `BezierStar::new(..).chain` -/
def bezierStarChain (nPoints : Nat) (innerR innerH outerR outerH : α) (segments : Nat) : Option (Chain α) :=
  let angle : α := -(lit 360) / cast nPoints
  let knots : List (Pt2 α) := (List.range nPoints).flatMap fun i =>
    [⟨dcos (angle * cast i) * outerR, dsin (angle * cast i) * outerR⟩,
     ⟨dcos (angle * (cast i + half)) * innerR, dsin (angle * (cast i + half)) * innerR⟩]
  let n := knots.length
  if n < 2 then none else
  let k (i : Nat) : Pt2 α := knots.getD i ⟨0, 0⟩
  let controls : List (Pt2 α) := (List.range n).map fun i =>
    k ((i + 1) % n) - (k ((i + 2) % n) - k i).normalized * (if i % 2 = 0 then innerH else outerH)
  let c (i : Nat) : Pt2 α := controls.getD i ⟨0, 0⟩
  let ch0 := Chain.new (k 0) (c 0) (c 0) (k 1) segments
  let ch := (List.range (n - 2)).foldl
    (fun ch j => let i := j + 1; Chain.add ch (if i % 2 = 0 then outerH else innerH) (c i) (k (i + 1)) segments) ch0
  some (Chain.close ch innerH (c (n - 1)) outerH segments)

/-- `bezier_star` (free function; the code is duplicated in dim2.rs) -/
def bezierStar (nPoints : Nat) (innerR innerH outerR outerH : α) (segments : Nat) : Option (List (Pt2 α)) :=
  (bezierStarChain nPoints innerR innerH outerR outerH segments).map Chain.genPoints

end ScadVerif.Dim2
