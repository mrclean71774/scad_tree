/-
Scalar abstraction of the model.

Every numeric definition of the model is generic in the scalar type `α` and uses
core operator classes plus the small classes below.  Instances:
* `Float`  — executed by the driver (IEEE binary64, C libm) — this file;
* fields / `ℝ` — what the theorems talk about — `Lemmas/RealInst.lean`;
* `Int` — kernel-evaluable counter-witnesses (`decide`).

This file imports nothing outside core so that the driver links as an executable.
-/
namespace ScadVerif

/-- Rust `n as f64` for an unsigned integer `n`. -/
class OfNatCast (α : Type) where
  cast : Nat → α

/-- libm functions. -/
class Trig (α : Type) where
  sin : α → α
  cos : α → α
  tan : α → α
  asin : α → α
  acos : α → α
  atan : α → α
  pi : α

class HasSqrt (α : Type) where
  sqrt : α → α

class HasAbs (α : Type) where
  abs : α → α

/-- Boolean comparisons (`<`, `<=`, `==` of Rust's `f64`). -/
class Cmp (α : Type) where
  ltb : α → α → Bool
  leb : α → α → Bool
  eqb : α → α → Bool

/-- Rust `x as usize` / `x as u64` on a float (saturating, NaN ↦ 0). -/
class HasTrunc (α : Type) where
  trunc : α → Nat

export OfNatCast (cast)
export HasSqrt (sqrt)

/-- literal `n` of the scalar type -/
@[reducible] def lit {α : Type} [OfNatCast α] (n : Nat) : α := OfNatCast.cast n

instance : OfNatCast Float := ⟨Float.ofNat⟩

def floatPi : Float := Float.ofBits 0x400921FB54442D18

instance : Trig Float where
  sin := Float.sin
  cos := Float.cos
  tan := Float.tan
  asin := Float.asin
  acos := Float.acos
  atan := Float.atan
  pi := floatPi

instance : HasSqrt Float := ⟨Float.sqrt⟩
instance : HasAbs Float := ⟨Float.abs⟩
instance : Cmp Float where
  ltb a b := decide (a < b)
  leb a b := decide (a ≤ b)
  eqb a b := a == b
instance : HasTrunc Float := ⟨fun x => x.toUInt64.toNat⟩

instance : OfNatCast Int := ⟨Int.ofNat⟩
instance : Cmp Int where
  ltb a b := decide (a < b)
  leb a b := decide (a ≤ b)
  eqb a b := decide (a = b)
instance : HasAbs Int := ⟨fun x => Int.ofNat x.natAbs⟩

section Degrees
variable {α : Type} [Mul α] [Div α] [OfNatCast α] [Trig α]

/-- Rust `f64::to_radians`: `x * (PI / 180.0)`. -/
def toRad (x : α) : α := x * (Trig.pi / lit 180)
/-- Rust `f64::to_degrees`: `x * (180.0 / PI)`. -/
def toDeg (x : α) : α := x * (lit 180 / Trig.pi)

def dsin (d : α) : α := Trig.sin (toRad d)
def dcos (d : α) : α := Trig.cos (toRad d)
def dtan (d : α) : α := Trig.tan (toRad d)
/-- scad_tree_math `dasin` after the repair: the arc-sine, in degrees. -/
def dasin (x : α) : α := toDeg (Trig.asin x)
def dacos (x : α) : α := toDeg (Trig.acos x)
def datan (x : α) : α := toDeg (Trig.atan x)
/-- the function as first published: converts the *argument* to radians. -/
def dasinLegacy (x : α) : α := Trig.asin (toRad x)
def dacosLegacy (x : α) : α := Trig.acos (toRad x)
def datanLegacy (x : α) : α := Trig.atan (toRad x)
end Degrees

/-- `approx_eq a b eps := (a - b).abs() < eps`. -/
def approxEq {α : Type} [Sub α] [HasAbs α] [Cmp α] (a b eps : α) : Bool :=
  Cmp.ltb (HasAbs.abs (a - b)) eps

end ScadVerif
