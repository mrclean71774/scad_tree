/-
Model of scad_tree::metric_thread — table lookup, thread proportions and `threaded_cylinder` (the
thread mesh, the core rod, the centring).  The part builders `threaded_rod`, `tap`, `hex_bolt`,
`hex_nut` are in Model/Parts.lean.
-/
import ScadVerif.Model.Scad
import ScadVerif.Model.Dim3
import ScadVerif.Gen.ThreadTable
namespace ScadVerif.Thread
open ScadVerif
variable {α : Type} [Add α] [Sub α] [Mul α] [Div α] [Neg α] [OfNat α 0] [OfNat α 1]
  [OfNatCast α] [Trig α] [Cmp α] [HasAbs α] [HasSqrt α] [HasTrunc α]

/-- value of a decimal literal: the correctly rounded quotient is the double the literal denotes -/
def Gen.Dec.val (d : Gen.Dec) : α := cast d.num / cast (10 ^ d.digits)

def findRow (k : Nat) : Option Gen.ThreadRow := Gen.threadTable.find? (·.key = k)

/-- the `loop { if contains(m) break; m -= 1 }` of `m_table_lookup`, counting down from `m` -/
def lookupFrom : Nat → Option Gen.ThreadRow
  | 0 => findRow 0
  | m + 1 => match findRow (m + 1) with
    | some r => some r
    | none => lookupFrom m

/-- `m_table_lookup(m)`: sizes below 2 are clamped to 2 -/
def lookup (m : Int) : Option Gen.ThreadRow := lookupFrom (if m < 2 then 2 else m.toNat)

/-- `thread_height_from_pitch`: √3 / 2 · pitch -/
def threadHeight (pitch : α) : α := sqrt (lit 3 : α) / lit 2 * pitch
/-- `d_min_from_d_maj_pitch`: d_maj − 2·5/8·H -/
def dMin (dMaj pitch : α) : α := dMaj - lit 2 * lit 5 / lit 8 * threadHeight pitch

/-- private `lerp(start, end, n_steps, step)` -/
def lerpSteps (s e : Pt3 α) (n step : Nat) : Pt3 α :=
  s + ((e - s) / (cast n : α) * (cast step : α))

structure Mesh (α : Type) where
  points : List (Pt3 α)
  faces : List (List Nat)
  convexity : Nat

/-- one ring of four vertices from a profile at the given (cos, sin) and height offset -/
def ring4 (c s z : α) (p0 p1 p2 p3 : Pt3 α) : List (Pt3 α) :=
  [⟨c * p0.x, s * p0.x, z + p0.z⟩, ⟨c * p1.x, s * p1.x, z + p1.z⟩,
   ⟨c * p2.x, s * p2.x, z + p2.z⟩, ⟨c * p3.x, s * p3.x, z + p3.z⟩]

/-- the eight triangles between ring `step` and ring `step + 1` -/
def stepFaces (left : Bool) (o : Nat) : List (List Nat) :=
  if left then
    [[3 + o, 5 + o, 1 + o], [7 + o, 5 + o, 3 + o], [1 + o, 4 + o, o], [5 + o, 4 + o, 1 + o],
     [o, 6 + o, 2 + o], [4 + o, 6 + o, o], [2 + o, 7 + o, 3 + o], [6 + o, 7 + o, 2 + o]]
  else
    [[1 + o, 5 + o, 3 + o], [3 + o, 5 + o, 7 + o], [o, 4 + o, 1 + o], [1 + o, 4 + o, 5 + o],
     [2 + o, 6 + o, o], [o, 6 + o, 4 + o], [3 + o, 7 + o, 2 + o], [2 + o, 7 + o, 6 + o]]

/-- loop state of the thread builder -/
structure St (α : Type) where
  leadInStep : Nat
  leadOutStep : Nat
  in1 : Pt3 α
  in3 : Pt3 α
  out1 : Pt3 α
  out3 : Pt3 α
  points : List (Pt3 α)     -- reversed chunks are avoided: appended per step
  faces : List (List Nat)

/-- the thread mesh of `threaded_cylinder` (first polyhedron of its result) -/
def threadMesh (dMin dMaj pitch length : α) (segments : Nat) (leadInDeg leadOutDeg : α) (left : Bool) :
    Option (Mesh α) :=
  let leadIn := Cmp.ltb 0 leadInDeg
  let leadOut := Cmp.ltb 0 leadOutDeg
  let threadLength := length - lit 7 / lit 10 * pitch
  let nRev := threadLength / pitch
  let nSteps := HasTrunc.trunc (nRev * cast segments)
  let zStep := threadLength / (cast nSteps : α)
  let stepAngle : α := lit 360 / cast segments
  let nIn := HasTrunc.trunc ((cast segments : α) * leadInDeg / lit 360 + lit 2)
  let nOut := HasTrunc.trunc ((cast segments : α) * leadOutDeg / lit 360)
  -- `n_steps - 1`, `n_steps - 2` and `n_steps - n_lead_out_steps` are usize subtractions
  if nSteps < 2 || nOut > nSteps then none else
  let half (x : α) : α := x / lit 2
  let tp0 : Pt3 α := ⟨half dMin, 0, lit 3 / lit 4 * pitch⟩
  let tp1 : Pt3 α := ⟨half dMaj, 0, lit 7 / lit 16 * pitch⟩
  let tp2 : Pt3 α := ⟨half dMin, 0, 0⟩
  let tp3 : Pt3 α := ⟨half dMaj, 0, lit 5 / lit 16 * pitch⟩
  let lp1 : Pt3 α := ⟨half dMin, 0, lit 7 / lit 16 * pitch⟩
  let lp3 : Pt3 α := ⟨half dMin, 0, lit 5 / lit 16 * pitch⟩
  let inStart1 := lerpSteps lp1 tp1 nIn 2
  let inStart3 := lerpSteps lp3 tp3 nIn 2
  let outEnd1 := lerpSteps lp1 tp1 nOut 1
  let outEnd3 := lerpSteps lp3 tp3 nOut 1
  let startFaces : List (List Nat) := if left then [[2, 1, 0], [3, 1, 2]] else [[0, 1, 2], [2, 1, 3]]
  let st0 : St α := ⟨3, nOut, inStart1, inStart3, tp1, tp3, [tp0, inStart1, tp2, inStart3], startFaces⟩
  let st := (List.range (nSteps - 1)).foldl (fun (st : St α) step =>
    let angle0 : α := stepAngle * cast (step + 1)
    let angle := if left then angle0 * (-1) else angle0
    let c := dcos angle; let s := dsin angle
    let z := zStep * cast step
    if st.leadInStep < nIn && leadIn then
      let li := st.leadInStep + 1
      { st with
        leadInStep := li
        in1 := lerpSteps inStart1 tp1 nIn li
        in3 := lerpSteps inStart3 tp3 nIn li
        points := st.points ++ ring4 c s z tp0 st.in1 tp2 st.in3
        faces := st.faces ++ stepFaces left (step * 4) }
    else if st.leadOutStep > 0 && step ≥ nSteps - nOut && leadOut then
      let lo := st.leadOutStep - 1
      { st with
        leadOutStep := lo
        out1 := lerpSteps tp1 outEnd1 nOut (nOut - lo)
        out3 := lerpSteps tp3 outEnd3 nOut (nOut - lo)
        points := st.points ++ ring4 c s z tp0 st.out1 tp2 st.out3
        faces := st.faces ++ stepFaces left (step * 4) }
    else
      { st with
        points := st.points ++ ring4 c s z tp0 tp1 tp2 tp3
        faces := st.faces ++ stepFaces left (step * 4) }) st0
  let o := (nSteps - 2) * 4
  let endFaces : List (List Nat) :=
    if left then [[5 + o, 7 + o, 6 + o], [4 + o, 5 + o, 6 + o]] else [[6 + o, 7 + o, 5 + o], [6 + o, 5 + o, 4 + o]]
  some ⟨st.points, st.faces ++ endFaces, HasTrunc.trunc (length / pitch) + 1⟩

/-- `Polyhedron::into_scad` -/
def polyScad (p : Dim3.Polyhedron α) : Scad α := Scad.node (.polyhedron p.points p.faces 1) []

/-- the un-centred thread with its core rod -/
def threadedCylinderCore (dMin dMaj pitch length : α) (segments : Nat) (leadInDeg leadOutDeg : α)
    (left : Bool) : Option (Scad α) := do
  let m ← threadMesh dMin dMaj pitch length segments leadInDeg leadOutDeg left
  let threads : Scad α := Scad.node (.polyhedron m.points m.faces m.convexity) []
  let rod ← Dim3.Polyhedron.cylinder (dMin / lit 2 + lit 1 / lit 10000) length segments
  pure (Scad.add threads (polyScad rod))

/-- `threaded_cylinder` -/
def threadedCylinder (dMin dMaj pitch length : α) (segments : Nat) (leadInDeg leadOutDeg : α)
    (left center : Bool) : Option (Scad α) :=
  (threadedCylinderCore dMin dMaj pitch length segments leadInDeg leadOutDeg left).map fun result =>
    if center then Scad.node (.translate ⟨0, 0, -length / lit 2⟩) [result] else result

end ScadVerif.Thread
