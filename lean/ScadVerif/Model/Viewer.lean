/-
Model of scad_tree::viewer — a scene accumulated by `add_*` calls.
-/
import ScadVerif.Model.Parts
namespace ScadVerif.Viewer
open ScadVerif ScadVerif.Parts
variable {α : Type} [Add α] [Sub α] [Mul α] [Div α] [Neg α] [OfNat α 0] [OfNat α 1]
  [OfNatCast α] [Trig α] [Cmp α] [HasAbs α] [HasSqrt α] [HasTrunc α]

structure State (α : Type) where
  pointRadius : α
  edgeRadius : α
  segments : Nat
  scad : Option (Scad α)

/-- one `add_*` call -/
inductive Op (α : Type) where
  | pt2 (p : Pt2 α) (color : List Char)
  | pt3 (p : Pt3 α) (color : List Char)
  | pt2s (ps : List (Pt2 α)) (color : List Char)
  | pt3s (ps : List (Pt3 α)) (color : List Char)
  | lines2d (es : List (Pt2 α × Pt2 α)) (color : List Char)
  | lines3d (es : List (Pt3 α × Pt3 α)) (color : List Char)
  | quad2 (s c e : Pt2 α) (seg : Nat)
  | quad3 (s c e : Pt3 α) (seg : Nat)
  | cubic2 (s c1 c2 e : Pt2 α) (seg : Nat)
  | cubic3 (s c1 c2 e : Pt3 α) (seg : Nat)
  | chain2 (curves : List (Dim2.Cubic α))
  | chain3 (curves : List (Dim3.Cubic α))

def sphereFn (r : α) (fn : Nat) : Scad α := Scad.node (.sphere r none none (some fn)) []
/-- `color!(c=color, child)` -/
def colorC (c : List Char) (cs : List (Scad α)) : Scad α := Scad.node (.color none (some c) none none) cs
/-- the `Scad { op: Color { color, alpha: Some(1.0) }, children }` literal of the list adders -/
def colorA (c : List Char) (cs : List (Scad α)) : Scad α := Scad.node (.color none (some c) none (some 1)) cs

/-- `self.scad = Some(old + s)` / `Some(s)` -/
def push (st : State α) (s : Scad α) : State α :=
  { st with scad := some (match st.scad with | some old => Scad.add old s | none => s) }
/-- `Some(Scad { Union, [old, child] })` / `Some(Scad { Union, [child] })` -/
def pushGroup (st : State α) (child : Scad α) : State α :=
  { st with scad := some (match st.scad with | some old => union [old, child] | none => union [child]) }

/-- the mesh of one edge: a cylinder of the edge radius turned by the look-at frame and moved to `start` -/
def edgeMesh (st : State α) (start end_ : Pt3 α) : Option (Scad α) := do
  let m := Mt4.lookAtLh start end_ ⟨0, 0, 1⟩
  let c ← Dim3.Polyhedron.cylinder st.edgeRadius (Pt3.sub end_ start).len st.segments
  let c := (c.applyMatrix m).translate start
  pure (Scad.node (.polyhedron c.points c.faces 1) [])

/-- the mesh of one 2D edge, as `add_lines2d` builds it: the frame of the edge lifted to z = 0, the cylinder
as long as the *2D* distance (over the reals that is `edgeMesh` of the lifted end points, `C18.edgeMesh2_eq`) -/
def edgeMesh2 (st : State α) (start end_ : Pt2 α) : Option (Scad α) := do
  let m := Mt4.lookAtLh (start.asPt3 0) (end_.asPt3 0) ⟨0, 0, 1⟩
  let c ← Dim3.Polyhedron.cylinder st.edgeRadius (Pt2.sub end_ start).len st.segments
  let c := (c.applyMatrix m).translate (start.asPt3 0)
  pure (Scad.node (.polyhedron c.points c.faces 1) [])

def edges (ps : List β) : List (β × β) := ps.zip (ps.drop 1)

def white : List Char := c!"White"
def green : List Char := c!"Green"
def darkSlateGray : List Char := c!"DarkSlateGray"

/-! The basic adders.  The point adders always succeed; the edge adders (and the curve adders, which call
them) return `none` where the source panics: an edge cylinder with fewer than four segments. -/
def addPt2 (st : State α) (p : Pt2 α) (c : List Char) : State α :=
  push st (translate ⟨p.x, p.y, 0⟩ [colorC c [sphereFn st.pointRadius st.segments]])
def addPt3 (st : State α) (p : Pt3 α) (c : List Char) : State α :=
  push st (translate ⟨p.x, p.y, p.z⟩ [colorC c [sphereFn st.pointRadius st.segments]])
def addPt2s (st : State α) (ps : List (Pt2 α)) (c : List Char) : State α :=
  pushGroup st (colorA c (ps.map fun p => translate ⟨p.x, p.y, 0⟩ [sphereFn st.pointRadius st.segments]))
def addPt3s (st : State α) (ps : List (Pt3 α)) (c : List Char) : State α :=
  pushGroup st (colorA c (ps.map fun p => translate ⟨p.x, p.y, p.z⟩ [sphereFn st.pointRadius st.segments]))
def addLines3d (st : State α) (es : List (Pt3 α × Pt3 α)) (c : List Char) : Option (State α) := do
  let meshes ← es.mapM fun (a, b) => edgeMesh st a b
  pure (pushGroup st (colorA c meshes))
def addLines2d (st : State α) (es : List (Pt2 α × Pt2 α)) (c : List Char) : Option (State α) := do
  let meshes ← es.mapM fun (a, b) => edgeMesh2 st a b
  pure (pushGroup st (colorA c meshes))

def addQuad2 (st : State α) (s c e : Pt2 α) (seg : Nat) : Option (State α) := do
  let pts := Dim2.quadraticBezier s c e seg
  let st := addPt2s st pts darkSlateGray
  let st ← addLines2d st (edges pts) white
  let st ← addLines2d st [(s, c), (e, c)] green
  pure (addPt2 st c green)
def addQuad3 (st : State α) (s c e : Pt3 α) (seg : Nat) : Option (State α) := do
  let pts := Dim3.quadraticBezier s c e seg
  let st := addPt3s st pts darkSlateGray
  let st ← addLines3d st (edges pts) white
  let st ← addLines3d st [(s, c), (e, c)] green
  pure (addPt3 st c green)
def addCubic2 (st : State α) (s c1 c2 e : Pt2 α) (seg : Nat) : Option (State α) := do
  let pts := Dim2.cubicBezier s c1 c2 e seg
  let st := addPt2s st pts darkSlateGray
  let st ← addLines2d st (edges pts) white
  let st ← addLines2d st [(s, c1), (e, c2)] green
  pure (addPt2 (addPt2 st c1 green) c2 green)
def addCubic3 (st : State α) (s c1 c2 e : Pt3 α) (seg : Nat) : Option (State α) := do
  let pts := Dim3.cubicBezier s c1 c2 e seg
  let st := addPt3s st pts darkSlateGray
  let st ← addLines3d st (edges pts) white
  let st ← addLines3d st [(s, c1), (e, c2)] green
  pure (addPt3 (addPt3 st c1 green) c2 green)

def step (st : State α) : Op α → Option (State α)
  | .pt2 p c => some (addPt2 st p c)
  | .pt3 p c => some (addPt3 st p c)
  | .pt2s ps c => some (addPt2s st ps c)
  | .pt3s ps c => some (addPt3s st ps c)
  | .lines2d es c => addLines2d st es c
  | .lines3d es c => addLines3d st es c
  | .quad2 s c e n => addQuad2 st s c e n
  | .quad3 s c e n => addQuad3 st s c e n
  | .cubic2 s c1 c2 e n => addCubic2 st s c1 c2 e n
  | .cubic3 s c1 c2 e n => addCubic3 st s c1 c2 e n
  | .chain2 cs => cs.foldlM (fun st c => addCubic2 st c.start c.control1 c.control2 c.end_ c.segments) st
  | .chain3 cs => cs.foldlM (fun st c => addCubic3 st c.start c.control1 c.control2 c.end_ c.segments) st

def run (pr er : α) (seg : Nat) (h : List (Op α)) : Option (State α) :=
  h.foldlM step ⟨pr, er, seg, none⟩

/-- `into_scad`: `self.scad.unwrap()` -/
def intoScad (st : State α) : Option (Scad α) := st.scad

end ScadVerif.Viewer
