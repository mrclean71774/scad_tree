/-
Model of the part builders: metric_thread::{threaded_rod, tap, hex_bolt, hex_nut},
Scad::{external_circle_chamfer, external_cylinder_chamfer, polar_array}, Pipe::* —
after the repairs recorded in known_findings.json (no double centring in hex_bolt/hex_nut,
bore of a centred pipe, placement of curved_solid).
-/
import ScadVerif.Model.Thread
namespace ScadVerif.Parts
open ScadVerif ScadVerif.Thread
variable {α : Type} [Add α] [Sub α] [Mul α] [Div α] [Neg α] [OfNat α 0] [OfNat α 1]
  [OfNatCast α] [Trig α] [Cmp α] [HasAbs α] [HasSqrt α] [HasTrunc α]

/-! ### macro shorthands (the node each macro arm builds) -/
def translate (v : Pt3 α) (cs : List (Scad α)) : Scad α := Scad.node (.translate v) cs
def rotateV (v : Pt3 α) (cs : List (Scad α)) : Scad α := Scad.node (.rotate none false v) cs
def rotateA (a : α) (cs : List (Scad α)) : Scad α := Scad.node (.rotate (some a) true ⟨0, 0, 0⟩) cs
def union (cs : List (Scad α)) : Scad α := Scad.node .union cs
def difference (cs : List (Scad α)) : Scad α := Scad.node .difference cs
/-- `cylinder!(h=, d1=, d2=, center=, fn=)` -/
def cylinderD (h d1 d2 : α) (center : Bool) (fn : Nat) : Scad α :=
  Scad.node (.cylinder h (d1 / lit 2) (d2 / lit 2) center none none (some fn)) []
/-- `circle!(d=, fn=)` -/
def circleD (d : α) (fn : Nat) : Scad α := Scad.node (.circle (d / lit 2) none none (some fn)) []

/-! ### Scad::external_circle_chamfer / external_cylinder_chamfer / polar_array -/
def externalCircleChamfer (size oversize radius degrees : α) (segments : Nat) : Scad α :=
  Scad.node (.rotateExtrude degrees 5 none none (some segments))
    [translate ⟨radius + size / lit 2 + oversize / lit 2, -oversize, 0⟩
      [rotateA (lit 90) [Scad.node (.polygon (Dim2.chamfer size oversize) none 1) []]]]

def externalCylinderChamfer (size oversize radius height : α) (segments : Nat) (center : Bool) : Scad α :=
  let c := externalCircleChamfer size oversize radius (lit 360) segments
  let result := union [c, translate ⟨0, 0, height⟩ [rotateV ⟨lit 180, 0, 0⟩ [c]]]
  if center then translate ⟨0, 0, -height / lit 2⟩ [result] else result

/-- `polar_array(scad, count, degrees)`; `assert!(degrees <= 360.0)` -/
def polarArray (s : Scad α) (count : Nat) (degrees : α) : Option (Scad α) :=
  if !(Cmp.leb degrees (lit 360)) then none else
  let steps := if Cmp.eqb degrees (lit 360) then count else count - 1
  some ((List.range count).foldl (fun result i =>
    let a : α := cast i * -degrees / cast steps
    Scad.add result (rotateV ⟨0, 0, a⟩ [s])) s)

/-! ### metric_thread part builders -/
def rowVals (r : Gen.ThreadRow) : α × α × α × α × α :=
  (Gen.Dec.val r.pitch, Gen.Dec.val r.externalDMaj, Gen.Dec.val r.internalDMaj, Gen.Dec.val r.nutWidth,
   Gen.Dec.val r.chamferSize)

def threadedRod (m : Int) (length : α) (segments : Nat) (leadIn leadOut : α) (left center : Bool) :
    Option (Scad α) := do
  let r ← lookup m
  let pitch : α := Gen.Dec.val r.pitch
  let dMaj : α := Gen.Dec.val r.externalDMaj
  threadedCylinder (dMin dMaj pitch) dMaj pitch length segments leadIn leadOut left center

def tap (m : Int) (length : α) (segments : Nat) (left center : Bool) : Option (Scad α) := do
  let r ← lookup m
  let pitch : α := Gen.Dec.val r.pitch
  let dMaj : α := Gen.Dec.val r.internalDMaj
  threadedCylinder (dMin dMaj pitch) dMaj pitch length segments 0 0 left center

/-- radius of the chamfer ring of a hex head: √((w/4)² + (w/2)²); the literals `0.25`, `0.5` as digits over
a power of ten, like every decimal literal of the model -/
def hexChamferRadius (w : α) : α :=
  sqrt ((lit 25 / lit 100 : α) * w * (lit 25 / lit 100) * w + (lit 5 / lit 10 : α) * w * (lit 5 / lit 10) * w)

/-- the un-centred bolt -/
def hexBoltCore (m : Int) (length headHeight : α) (segments : Nat) (leadIn : α) (chamfered left : Bool) :
    Option (Scad α) := do
  let r ← lookup m
  let pitch : α := Gen.Dec.val r.pitch
  let dMaj : α := Gen.Dec.val r.externalDMaj
  let headD : α := Gen.Dec.val r.nutWidth
  let rod0 ← threadedCylinder (dMin dMaj pitch) dMaj pitch length segments 0 leadIn left false
  let rod := translate ⟨0, 0, headHeight⟩ [rod0]
  let hex ← Dim2.circumscribedPolygon 6 (headD / lit 2)
  let head0 ← Dim3.Polyhedron.linearExtrude hex headHeight
  let head1 := polyScad head0
  let head := if chamfered then
      Scad.sub head1 (externalCylinderChamfer (Gen.Dec.val r.chamferSize) 1 (hexChamferRadius headD) headHeight segments false)
    else head1
  pure (Scad.add rod head)

/-- `hex_bolt` (repaired: the chamfer cutters are built un-centred, the whole bolt is centred once) -/
def hexBolt (m : Int) (length headHeight : α) (segments : Nat) (leadIn : α) (chamfered left center : Bool) :
    Option (Scad α) :=
  (hexBoltCore m length headHeight segments leadIn chamfered left).map fun bolt =>
    if center then translate ⟨0, 0, -((headHeight + length) / lit 2)⟩ [bolt] else bolt

/-- the un-centred nut -/
def hexNutCore (m : Int) (height : α) (segments : Nat) (chamfered left : Bool) : Option (Scad α) := do
  let r ← lookup m
  let w : α := Gen.Dec.val r.nutWidth
  let tap0 ← tap m (height + lit 20) segments left false
  let nutTap := translate ⟨0, 0, -(lit 10)⟩ [tap0]
  let hex ← Dim2.circumscribedPolygon 6 (w / lit 2)
  let blank0 ← Dim3.Polyhedron.linearExtrude hex height
  let nut0 := Scad.sub (polyScad blank0) nutTap
  let nut := if chamfered then
      Scad.sub nut0 (externalCylinderChamfer (Gen.Dec.val r.chamferSize) 1 (hexChamferRadius w) height segments false)
    else nut0
  pure nut

/-- `hex_nut` (repaired likewise) -/
def hexNut (m : Int) (height : α) (segments : Nat) (chamfered left center : Bool) : Option (Scad α) :=
  (hexNutCore m height segments chamfered left).map fun nut =>
    if center then translate ⟨0, 0, -height / lit 2⟩ [nut] else nut

/-! ### Pipe -/
namespace Pipe
/-- the assertions `od - wall_thickness * 2.0 > 0.0` -/
def boreOk (od wall : α) : Bool := Cmp.ltb 0 (od - wall * lit 2)

/-- `Pipe::straight` (repaired: the bore overshoots both ends for either centre setting) -/
def straight (od wall length : α) (center : Bool) (fn : Nat) : Option (Scad α) :=
  if !boreOk od wall then none else
  let shift : α := if center then 0 else -(1)
  some (difference [cylinderD length od od center fn,
    translate ⟨0, 0, shift⟩ [cylinderD (length + lit 2) (od - wall * lit 2) (od - wall * lit 2) center fn]])
def straightSolid (od length : α) (center : Bool) (fn : Nat) : Scad α := cylinderD length od od center fn

def tapered (od1 od2 wall length : α) (center : Bool) (fn : Nat) : Option (Scad α) :=
  if !(boreOk od1 wall && boreOk od2 wall) then none else
  let shift : α := if center then 0 else -(lit 1 / lit 1000)
  some (difference [cylinderD length od1 od2 center fn,
    translate ⟨0, 0, shift⟩
      [cylinderD (length + lit 2 / lit 1000) (od1 - wall * lit 2) (od2 - wall * lit 2) center fn]])
def taperedSolid (od1 od2 length : α) (center : Bool) (fn : Nat) : Scad α := cylinderD length od1 od2 center fn

def degreesOk (degrees : α) : Bool := Cmp.ltb 0 degrees && Cmp.leb degrees (lit 360)

def curvedBody (od degrees radius : α) (fn : Nat) (sect : Scad α) : Scad α :=
  translate ⟨-od / lit 2 - radius, 0, 0⟩
    [rotateV ⟨lit 90, 0, 0⟩
      [Scad.node (.rotateExtrude degrees 4 none none (some fn))
        [translate ⟨od / lit 2 + radius, 0, 0⟩ [sect]]]]

def curved (od wall degrees radius : α) (fn : Nat) : Option (Scad α) :=
  if !(boreOk od wall && degreesOk degrees) then none else
  some (curvedBody od degrees radius fn (difference [circleD od fn, circleD (od - wall * lit 2) fn]))
/-- `Pipe::curved_solid` (repaired: same placement as the hollow pipe) -/
def curvedSolid (od degrees radius : α) (fn : Nat) : Option (Scad α) :=
  if !degreesOk degrees then none else some (curvedBody od degrees radius fn (circleD od fn))
end Pipe

end ScadVerif.Parts
