/-
Model of scad_tree::triangulate (ear clipping), in the form the code has after the repair
recorded in known_findings.json (exact zero tests instead of absolute 1e-5 tolerances, word-sized
loop counters: `isize` starting at −1, `usize` neighbour indices).  A polygon is a list of (input index, point).
-/
import ScadVerif.Model.Pt
namespace ScadVerif.Tri
variable {α : Type} [Add α] [Sub α] [Mul α] [Div α] [Neg α] [OfNat α 0] [OfNat α 1] [Cmp α]

abbrev Poly (α : Type) := List (Nat × Pt2 α)

/-- twice the signed area of the triangle (a, b, c) as `is_ccw` computes it -/
def cross3 (a b c : Pt2 α) : α := (b.x - a.x) * (c.y - a.y) - (c.x - a.x) * (b.y - a.y)

/-- `is_ccw` -/
def isCcw (a b c : Pt2 α) : Bool := Cmp.ltb 0 (cross3 a b c)

/-- `in_triangle(p, a, b, c)` (repaired: `denom == 0.0`) -/
def inTriangle (p a b c : Pt2 α) : Bool :=
  let denom := (b.y - c.y) * (a.x - c.x) + (c.x - b.x) * (a.y - c.y)
  if Cmp.eqb denom 0 then true else
  let denom := 1 / denom
  let alpha := denom * ((b.y - c.y) * (p.x - c.x) + (c.x - b.x) * (p.y - c.y))
  if Cmp.ltb alpha 0 then false else
  let beta := denom * ((c.y - a.y) * (p.x - c.x) + (a.x - c.x) * (p.y - c.y))
  if Cmp.ltb beta 0 then false else
  let gamma := 1 - alpha - beta
  if Cmp.ltb gamma 0 then false else true

def prevIdx (n i : Nat) : Nat := if i = 0 then n - 1 else i - 1
def nextIdx (n i : Nat) : Nat := if i = n - 1 then 0 else i + 1

def pt (poly : Poly α) (i : Nat) : Pt2 α := (poly.getD i (0, ⟨0, 0⟩)).2
def idx (poly : Poly α) (i : Nat) : Nat := (poly.getD i (0, ⟨0, 0⟩)).1

/-- `l.any` with the element's index (starting at `k`) -/
def anyIdx {β : Type} : List β → Nat → (Nat → β → Bool) → Bool
  | [], _, _ => false
  | x :: xs, k, f => f k x || anyIdx xs (k + 1) f
/-- first index (starting at `k`) satisfying `f` -/
def findIdxFrom {β : Type} : List β → Nat → (Nat → β → Bool) → Option Nat
  | [], _, _ => none
  | x :: xs, k, f => if f k x then some k else findIdxFrom xs (k + 1) f
/-- left fold with the element's index -/
def foldIdx {β γ : Type} : List β → Nat → (γ → Nat → β → γ) → γ → γ
  | [], _, _, acc => acc
  | x :: xs, k, f, acc => foldIdx xs (k + 1) f (f acc k x)

/-- index of the "left-most" vertex: smallest x, ties broken by smaller y (repaired: exact tie) -/
def leftmost (poly : Poly α) : Nat :=
  let step (acc : Nat × Pt2 α) (i : Nat) (v : Nat × Pt2 α) : Nat × Pt2 α :=
    let p := v.2
    if Cmp.ltb p.x acc.2.x || (Cmp.eqb p.x acc.2.x && Cmp.ltb p.y acc.2.y) then (i, p) else acc
  (foldIdx poly 0 step (0, pt poly 0)).1

/-- reference orientation: the turn at the left-most vertex -/
def refCcw (poly : Poly α) : Bool :=
  let n := poly.length
  let i := leftmost poly
  isCcw (pt poly (prevIdx n i)) (pt poly i) (pt poly (nextIdx n i))

/-- is vertex `i` an ear under the scan rule: turns like the reference and no *later* vertex
(other than its neighbours) lies in the triangle -/
def isEar (poly : Poly α) (ccw : Bool) (i : Nat) : Bool :=
  let n := poly.length
  let p := prevIdx n i
  let nx := nextIdx n i
  let a := pt poly p; let b := pt poly i; let c := pt poly nx
  if isCcw a b c != ccw then false else
  !(anyIdx poly 0 fun j v => decide (i < j) && j != p && j != nx && inTriangle v.2 a b c)

/-- first ear in scan order -/
def findEar (poly : Poly α) (ccw : Bool) : Option Nat :=
  findIdxFrom poly 0 fun i _ => isEar poly ccw i

/-- the clipping loop; `fuel` ≥ number of vertices -/
def clip : Nat → Poly α → Bool → List Nat → List Nat
  | 0, _, _, acc => acc
  | fuel + 1, poly, ccw, acc =>
    if poly.length < 3 then acc else
    match findEar poly ccw with
    | none => acc
    | some e =>
      let n := poly.length
      clip fuel (poly.eraseIdx e) ccw (acc ++ [idx poly (prevIdx n e), idx poly e, idx poly (nextIdx n e)])

/-- private `triangulate` -/
def triangulate (poly : Poly α) : List Nat := clip poly.length poly (refCcw poly) []

/-- private `triangulate` with its own panics made explicit: it computes `polygon.len() - 2` and reads
`polygon[0]`, so fewer than two vertices never return (the public entry points assert more than three) -/
def triangulateChecked (poly : Poly α) : Option (List Nat) :=
  if poly.length < 2 then none else some (triangulate poly)

def indexed (vs : List (Pt2 α)) : Poly α := (List.range vs.length).zip vs

/-- `assert!(vertices.len() > 3)`: `none` models the panic -/
def triangulate2d (vs : List (Pt2 α)) : Option (List Nat) :=
  if vs.length > 3 then some (triangulate (indexed vs)) else none
def triangulate2dRev (vs : List (Pt2 α)) : Option (List Nat) :=
  if vs.length > 3 then some (triangulate (indexed vs).reverse) else none

/-! ### 3D variants: projection along the dominant axis of the normal -/
inductive NormalType | px | nx | py | ny | pz | nz | none_
deriving Repr, DecidableEq

def classify [HasAbs α] (nml : Pt3 α) : NormalType :=
  let ax := HasAbs.abs nml.x; let ay := HasAbs.abs nml.y; let az := HasAbs.abs nml.z
  if Cmp.leb ay ax && Cmp.leb az ax then (if Cmp.leb 0 nml.x then .px else .nx)
  else if Cmp.leb ax ay && Cmp.leb az ay then (if Cmp.leb 0 nml.y then .py else .ny)
  else if Cmp.leb ax az && Cmp.leb ay az then (if Cmp.leb 0 nml.z then .pz else .nz)
  else .none_

def project (t : NormalType) (v : Pt3 α) : Pt2 α :=
  match t with
  | .px => ⟨v.y, v.z⟩
  | .nx => ⟨-v.y, v.z⟩
  | .py => ⟨-v.x, v.z⟩
  | .ny => ⟨v.x, v.z⟩
  | .pz => ⟨v.x, v.y⟩
  | .nz => ⟨-v.x, v.y⟩
  | .none_ => ⟨0, 0⟩

/-- with a NaN normal no branch is taken and the polygon stays empty; `triangulate` then
panics before its loop (`polygon.len() - 2` underflows, `polygon[0]` is out of range) -/
def triangulate3d [HasAbs α] (vs : List (Pt3 α)) (nml : Pt3 α) : Option (List Nat) :=
  if vs.length > 3 then
    match classify nml with
    | .none_ => none
    | t => some (triangulate (indexed (vs.map (project t))))
  else none
def triangulate3dRev [HasAbs α] (vs : List (Pt3 α)) (nml : Pt3 α) : Option (List Nat) :=
  if vs.length > 3 then
    match classify nml with
    | .none_ => none
    | t => some (triangulate (indexed (vs.map (project t))).reverse)
  else none

end ScadVerif.Tri
