/-
Model of scad_tree::scad — the operation tree and its emission as OpenSCAD text
(scad.rs `ScadOp`, `Scad`, `impl Display for Scad`, and the `Display` impls of
Pt2/Pt3/Pt4/Pt2s/Pt3s/Indices/Paths), in the form the code has after the repairs recorded in
known_findings.json (empty lists print `[]`, an operator always closes its block, `paths=…,`
comma, resize `auto` form, `import(file=…, convexity=…)`, own string escaper).

Emission is defined through *pieces* — tokens and white space: an operation is rendered as a
structured header (call name, argument list), the header as pieces, and `emit` is the concatenation
of the pieces' characters.  The Rust source writes format strings instead; Tie/Emit.lean proves the
two spell the same text.

`ν` is the type of `f64` fields; `showNum : ν → List Char` is Rust's `Display for f64`
(an external parameter of the model, DESIGN §3.4).  `u64` fields are `Nat`.
-/
import ScadVerif.Model.Pt
import ScadVerif.Model.Chars
namespace ScadVerif

/-! ## tokens and pieces -/
inductive Tok where
  | ident (s : List Char)
  | num (s : List Char)        -- numeral text
  | str (s : List Char)        -- the *denoted* characters (unescaped)
  | lparen | rparen | lbrack | rbrack | lbrace | rbrace | comma | semi | eq
deriving Repr, DecidableEq, BEq

/-- scad.rs string writer: `\\ \" \n \t \r` escaped, everything else verbatim -/
def escapeChar (c : Char) : List Char :=
  if c = '\\' then ['\\', '\\']
  else if c = '"' then ['\\', '"']
  else if c = '\n' then ['\\', 'n']
  else if c = '\t' then ['\\', 't']
  else if c = '\r' then ['\\', 'r']
  else [c]
def escape (s : List Char) : List Char := s.flatMap escapeChar

def Tok.chars : Tok → List Char
  | .ident s => s
  | .num s => s
  | .str s => '"' :: (escape s ++ ['"'])
  | .lparen => ['('] | .rparen => [')'] | .lbrack => ['['] | .rbrack => [']']
  | .lbrace => ['{'] | .rbrace => ['}'] | .comma => [','] | .semi => [';'] | .eq => ['=']

inductive Piece where
  | tok (t : Tok)
  | ws (s : List Char)
deriving Repr, DecidableEq, BEq

def Piece.chars : Piece → List Char
  | .tok t => t.chars
  | .ws s => s

def flatten (ps : List Piece) : List Char := ps.flatMap Piece.chars
theorem flatten_append (a b : List Piece) : flatten (a ++ b) = flatten a ++ flatten b := by
  simp [flatten]
theorem flatten_cons (p : Piece) (ps : List Piece) : flatten (p :: ps) = p.chars ++ flatten ps := by
  simp [flatten]

/-! ## argument values -/
/-- a printed argument value -/
inductive Value where
  | num (txt : List Char)                 -- f64 through `Display`, or u64 in decimal
  | bool (b : Bool)
  | str (s : List Char)
  | undef
  | vec (spaced : Bool) (items : List Value)   -- `[a, b]` (spaced) or `[a,b]` (tight)
deriving Repr, BEq

mutual
def Value.pieces : Value → List Piece
  | .num t => [.tok (.num t)]
  | .bool b => [.tok (.ident (if b then c!"true" else c!"false"))]
  | .str s => [.tok (.str s)]
  | .undef => [.tok (.ident c!"undef")]
  | .vec sp items => .tok .lbrack :: (Value.piecesList sp items ++ [.tok .rbrack])
def Value.piecesList (sp : Bool) : List Value → List Piece
  | [] => []
  | [v] => v.pieces
  | v :: w :: rest =>
    v.pieces ++ (.tok .comma :: ((if sp then [Piece.ws [' ']] else []) ++ Value.piecesList sp (w :: rest)))
end

inductive Arg where
  | named (name : List Char) (v : Value)
  | pos (v : Value)
deriving Repr, BEq

def Arg.pieces : Arg → List Piece
  | .named n v => .tok (.ident n) :: .tok .eq :: v.pieces
  | .pos v => v.pieces

def argsPieces : List Arg → List Piece
  | [] => []
  | [a] => a.pieces
  | a :: b :: rest => a.pieces ++ (.tok .comma :: .ws [' '] :: argsPieces (b :: rest))

/-! What the printer writes for a value and an argument, as characters.  Right sides are chunks joined by `++`, never
a character consed on: nested to the right (`List.append_assoc`), two texts with the same printed values agree by
evaluation whatever the chunk boundaries; `List.singleton_append` gives the first character. -/
theorem num_text (t : List Char) : flatten (Value.num t).pieces = t := by
  simp [Value.pieces, flatten, Piece.chars, Tok.chars]
theorem bool_text (b : Bool) : flatten (Value.bool b).pieces = if b then c!"true" else c!"false" := by
  simp [Value.pieces, flatten, Piece.chars, Tok.chars]
theorem str_text (s : List Char) : flatten (Value.str s).pieces = c!"\"" ++ (escape s ++ c!"\"") := by
  simp [Value.pieces, flatten, Piece.chars, Tok.chars]
theorem undef_text : flatten Value.undef.pieces = c!"undef" := by
  simp [Value.pieces, flatten, Piece.chars, Tok.chars]
theorem vec_text (sp : Bool) (items : List Value) :
    flatten (Value.vec sp items).pieces = c!"[" ++ (flatten (Value.piecesList sp items) ++ c!"]") := by
  simp [Value.pieces, flatten, Piece.chars, Tok.chars]
theorem items_text_nil (sp : Bool) : flatten (Value.piecesList sp []) = [] := by
  rw [Value.piecesList]; rfl
theorem items_text_one (sp : Bool) (v : Value) : flatten (Value.piecesList sp [v]) = flatten v.pieces := by
  rw [Value.piecesList]
theorem items_text (sp : Bool) (v w : Value) (ws : List Value) :
    flatten (Value.piecesList sp (v :: w :: ws)) =
      flatten v.pieces ++ (c!"," ++ ((if sp then c!" " else []) ++ flatten (Value.piecesList sp (w :: ws)))) := by
  cases sp <;> simp [Value.piecesList, flatten, Piece.chars, Tok.chars]
theorem named_text (n : List Char) (v : Value) :
    flatten (Arg.named n v).pieces = n ++ (c!"=" ++ flatten v.pieces) := by
  simp [Arg.pieces, flatten, Piece.chars, Tok.chars]
theorem pos_text (v : Value) : flatten (Arg.pos v).pieces = flatten v.pieces := rfl
theorem args_text_one (a : Arg) : flatten (argsPieces [a]) = flatten a.pieces := by
  rw [argsPieces]
theorem args_text (a b : Arg) (tl : List Arg) :
    flatten (argsPieces (a :: b :: tl)) = flatten a.pieces ++ (c!", " ++ flatten (argsPieces (b :: tl))) := by
  simp [argsPieces, flatten, Piece.chars, Tok.chars]

/-- what an operation prints before its children: call name and arguments -/
structure Header where
  name : List Char
  args : List Arg
deriving Repr, BEq

/-! ## the tree -/
/-- scad.rs `ScadOp`, field for field in declaration order.  The enum-valued fields (`halign`, `valign`, `direction`,
`color`) hold the variant's name (tables in Gen/Enums.lean). -/
inductive ScadOp (ν : Type) where
  | union | difference | intersection
  | circle (radius : ν) (fa fs : Option ν) (fn : Option Nat)
  | square (size : Pt2 ν) (center : Bool)
  | polygon (points : List (Pt2 ν)) (paths : Option (List (List Nat))) (convexity : Nat)
  | text (text : List Char) (size : ν) (font : List Char) (halign valign : List Char) (spacing : ν)
      (direction : List Char) (language script : List Char) (fn : Option Nat)
  | import_ (file : List Char) (convexity : Nat)
  | projection (cut : Bool)
  | sphere (radius : ν) (fa fs : Option ν) (fn : Option Nat)
  | cube (size : Pt3 ν) (center : Bool)
  | cylinder (height radius1 radius2 : ν) (center : Bool) (fa fs : Option ν) (fn : Option Nat)
  | polyhedron (points : List (Pt3 ν)) (faces : List (List Nat)) (convexity : Nat)
  | linearExtrude (height : ν) (center : Bool) (convexity : Nat) (twist : ν) (scale : Pt2 ν)
      (slices fn : Option Nat)
  | rotateExtrude (angle : ν) (convexity : Nat) (fa fs : Option ν) (fn : Option Nat)
  | surface (file : List Char) (center invert : Bool) (convexity : Nat)
  | translate (v : Pt3 ν)
  | rotate (a : Option ν) (aIsScalar : Bool) (v : Pt3 ν)
  | scale (v : Pt3 ν)
  | resize (newsize : Pt3 ν) (auto autoIsVec : Bool) (autovec : Bool × Bool × Bool) (convexity : Nat)
  | mirror (v : Pt3 ν)
  | color (rgba : Option (Pt4 ν)) (color : Option (List Char)) (hex : Option (List Char)) (alpha : Option ν)
  | offset (r delta : Option ν) (chamfer : Bool)
  | hull
  | minkowski (convexity : Nat)
deriving Repr, BEq

mutual
inductive Scad (ν : Type) where
  | mk (op : ScadOp ν) (children : ScadList ν)
inductive ScadList (ν : Type) where
  | nil
  | cons (head : Scad ν) (tail : ScadList ν)
end

namespace ScadList
variable {ν : Type}
def toList : ScadList ν → List (Scad ν)
  | .nil => []
  | .cons h t => h :: t.toList
def ofList : List (Scad ν) → ScadList ν
  | [] => .nil
  | h :: t => .cons h (ofList t)
def isNil : ScadList ν → Bool
  | .nil => true
  | .cons _ _ => false
@[simp] theorem toList_ofList (l : List (Scad ν)) : (ofList l).toList = l := by
  induction l with
  | nil => rfl
  | cons h t ih => simp [ofList, toList, ih]
@[simp] theorem ofList_toList : (l : ScadList ν) → ofList l.toList = l
  | .nil => rfl
  | .cons h t => by simp [ofList, toList, ofList_toList t]
end ScadList

def Scad.op {ν} : Scad ν → ScadOp ν | .mk o _ => o
def Scad.children {ν} : Scad ν → ScadList ν | .mk _ c => c
/-- `Scad { op, children: vec![…] }` -/
def Scad.node {ν} (op : ScadOp ν) (cs : List (Scad ν)) : Scad ν := .mk op (ScadList.ofList cs)

/-! ## headers -/
section Header
variable {ν : Type} (showNum : ν → List Char)

def natDigits (n : Nat) : List Char := Nat.toDigits 10 n
def vNum (x : ν) : Value := .num (showNum x)
def vNat (n : Nat) : Value := .num (natDigits n)
/-- `Display for Pt2/Pt3/Pt4`: `[x, y, z]` -/
def vPt2 (p : Pt2 ν) : Value := .vec true [vNum showNum p.x, vNum showNum p.y]
def vPt3 (p : Pt3 ν) : Value := .vec true [vNum showNum p.x, vNum showNum p.y, vNum showNum p.z]
def vPt4 (p : Pt4 ν) : Value :=
  .vec true [vNum showNum p.x, vNum showNum p.y, vNum showNum p.z, vNum showNum p.w]
/-- `Display for Pt2s/Pt3s`: points separated by `,` without a space -/
def vPt2s (ps : List (Pt2 ν)) : Value := .vec false (ps.map (vPt2 showNum))
def vPt3s (ps : List (Pt3 ν)) : Value := .vec false (ps.map (vPt3 showNum))
/-- `Display for Indices` / `Paths`: `, ` separated -/
def vIndices (is : List Nat) : Value := .vec true (is.map vNat)
def vPaths (ps : List (List Nat)) : Value := .vec true (ps.map vIndices)

/-- the optional `$fa`, `$fs`, `$fn` tail -/
def faFsFn (fa fs : Option ν) (fn : Option Nat) : List Arg :=
  (match fa with | some x => [Arg.named c!"$fa" (vNum showNum x)] | none => []) ++
  (match fs with | some x => [Arg.named c!"$fs" (vNum showNum x)] | none => []) ++
  (match fn with | some n => [Arg.named c!"$fn" (vNat n)] | none => [])
def optNat (name : List Char) (o : Option Nat) : List Arg :=
  match o with | some n => [Arg.named name (vNat n)] | none => []

/-- the ten primitives print `name(args);`, everything else opens a block -/
def ScadOp.isPrimitive : ScadOp ν → Bool
  | .circle .. | .square .. | .polygon .. | .text .. | .import_ .. | .sphere .. | .cube ..
  | .cylinder .. | .polyhedron .. | .surface .. => true
  | _ => false

/-- `none`: nothing is printed before the children (a `Color`/`Offset` node with no alternative set) -/
def ScadOp.header : ScadOp ν → Option Header
  | .union => some ⟨c!"union", []⟩
  | .difference => some ⟨c!"difference", []⟩
  | .intersection => some ⟨c!"intersection", []⟩
  | .circle r fa fs fn => some ⟨c!"circle", .named c!"r" (vNum showNum r) :: faFsFn showNum fa fs fn⟩
  | .square size center =>
    some ⟨c!"square", [.named c!"size" (vPt2 showNum size), .named c!"center" (.bool center)]⟩
  | .polygon points paths convexity =>
    some ⟨c!"polygon", [.named c!"points" (vPt2s showNum points),
      .named c!"paths" (match paths with | some p => vPaths p | none => .undef),
      .named c!"convexity" (vNat convexity)]⟩
  | .text txt size font halign valign spacing direction language script fn =>
    some ⟨c!"text", [.named c!"text" (.str txt), .named c!"size" (vNum showNum size),
      .named c!"font" (.str font), .named c!"halign" (.str halign), .named c!"valign" (.str valign),
      .named c!"spacing" (vNum showNum spacing), .named c!"direction" (.str direction),
      .named c!"language" (.str language), .named c!"script" (.str script)] ++ optNat c!"$fn" fn⟩
  | .import_ file convexity =>
    some ⟨c!"import", [.named c!"file" (.str file), .named c!"convexity" (vNat convexity)]⟩
  | .projection cut => some ⟨c!"projection", [.named c!"cut" (.bool cut)]⟩
  | .sphere r fa fs fn => some ⟨c!"sphere", .named c!"r" (vNum showNum r) :: faFsFn showNum fa fs fn⟩
  | .cube size center =>
    some ⟨c!"cube", [.named c!"size" (vPt3 showNum size), .named c!"center" (.bool center)]⟩
  | .cylinder h r1 r2 center fa fs fn =>
    some ⟨c!"cylinder", [.named c!"h" (vNum showNum h), .named c!"r1" (vNum showNum r1),
      .named c!"r2" (vNum showNum r2), .named c!"center" (.bool center)] ++ faFsFn showNum fa fs fn⟩
  | .polyhedron points faces convexity =>
    some ⟨c!"polyhedron", [.named c!"points" (vPt3s showNum points), .named c!"faces" (vPaths faces),
      .named c!"convexity" (vNat convexity)]⟩
  | .linearExtrude height center convexity twist scl slices fn =>
    some ⟨c!"linear_extrude", [.named c!"height" (vNum showNum height), .named c!"center" (.bool center),
      .named c!"convexity" (vNat convexity), .named c!"twist" (vNum showNum twist),
      .named c!"scale" (vPt2 showNum scl)] ++ optNat c!"slices" slices ++ optNat c!"$fn" fn⟩
  | .rotateExtrude angle convexity fa fs fn =>
    some ⟨c!"rotate_extrude", [.named c!"angle" (vNum showNum angle), .named c!"convexity" (vNat convexity)]
      ++ faFsFn showNum fa fs fn⟩
  | .surface file center invert convexity =>
    some ⟨c!"surface", [.named c!"file" (.str file), .named c!"center" (.bool center),
      .named c!"invert" (.bool invert), .named c!"convexity" (vNat convexity)]⟩
  | .translate v => some ⟨c!"translate", [.named c!"v" (vPt3 showNum v)]⟩
  | .rotate a aIsScalar v =>
    match a with
    | some a =>
      if aIsScalar then some ⟨c!"rotate", [.named c!"a" (vNum showNum a)]⟩
      else some ⟨c!"rotate", [.named c!"a" (vNum showNum a), .named c!"v" (vPt3 showNum v)]⟩
    | none => some ⟨c!"rotate", [.named c!"a" (vPt3 showNum v)]⟩
  | .scale v => some ⟨c!"scale", [.named c!"v" (vPt3 showNum v)]⟩
  | .resize newsize auto autoIsVec autovec convexity =>
    some ⟨c!"resize", [.named c!"newsize" (vPt3 showNum newsize),
      .named c!"auto" (if autoIsVec then .vec true [.bool autovec.1, .bool autovec.2.1, .bool autovec.2.2]
                       else .bool auto),
      .named c!"convexity" (vNat convexity)]⟩
  | .mirror v => some ⟨c!"mirror", [.named c!"v" (vPt3 showNum v)]⟩
  | .color rgba col hex alpha =>
    match rgba, col, hex with
    | some rgba, _, _ => some ⟨c!"color", [.named c!"c" (vPt4 showNum rgba)]⟩
    | none, some col, _ =>
      some ⟨c!"color", .pos (.str col) ::
        (match alpha with | some a => [Arg.named c!"alpha" (vNum showNum a)] | none => [])⟩
    | none, none, some hex => some ⟨c!"color", [.pos (.str hex)]⟩
    | none, none, none => none
  | .offset r delta chamfer =>
    match r, delta with
    | some r, _ => some ⟨c!"offset", [.named c!"r" (vNum showNum r)]⟩
    | none, some d => some ⟨c!"offset", [.named c!"delta" (vNum showNum d), .named c!"chamfer" (.bool chamfer)]⟩
    | none, none => none
  | .hull => some ⟨c!"hull", []⟩
  | .minkowski convexity => some ⟨c!"minkowski", [.named c!"convexity" (vNat convexity)]⟩

def Header.pieces (h : Header) : List Piece :=
  .tok (.ident h.name) :: .tok .lparen :: (argsPieces h.args ++ [.tok .rparen])
theorem header_text (h : Header) : flatten h.pieces = h.name ++ (c!"(" ++ (flatten (argsPieces h.args) ++ c!")")) := by
  simp [Header.pieces, flatten, Piece.chars, Tok.chars]

/-! ## emission (`impl Display for Scad`) -/
mutual
def Scad.pieces : Scad ν → List Piece
  | .mk op cs =>
    (match op.header showNum with
     | some h => h.pieces ++ (if op.isPrimitive then [.tok .semi] else [.ws [' '], .tok .lbrace, .ws ['\n']])
     | none => []) ++
    ScadList.pieces cs ++
    (if op.isPrimitive then [] else [.tok .rbrace]) ++ [.ws ['\n']]
def ScadList.pieces : ScadList ν → List Piece
  | .nil => []
  | .cons h t => Scad.pieces h ++ ScadList.pieces t
end

/-- `format!("{}", tree)` -/
def Scad.emit (t : Scad ν) : List Char := flatten (t.pieces showNum)
def emitAll (ts : List (Scad ν)) : List Char := ts.flatMap (Scad.emit showNum)

end Header

/-! ## change of number type -/
def ScadOp.map {ν μ : Type} (f : ν → μ) : ScadOp ν → ScadOp μ
  | .union => .union | .difference => .difference | .intersection => .intersection | .hull => .hull
  | .circle r fa fs fn => .circle (f r) (fa.map f) (fs.map f) fn
  | .sphere r fa fs fn => .sphere (f r) (fa.map f) (fs.map f) fn
  | .square s c => .square ⟨f s.x, f s.y⟩ c
  | .cube s c => .cube ⟨f s.x, f s.y, f s.z⟩ c
  | .polygon pts paths cv => .polygon (pts.map fun p => ⟨f p.x, f p.y⟩) paths cv
  | .text t sz font h v sp d lang scr fn => .text t (f sz) font h v (f sp) d lang scr fn
  | .import_ file cv => .import_ file cv
  | .projection c => .projection c
  | .cylinder h r1 r2 c fa fs fn => .cylinder (f h) (f r1) (f r2) c (fa.map f) (fs.map f) fn
  | .polyhedron pts faces cv => .polyhedron (pts.map fun p => ⟨f p.x, f p.y, f p.z⟩) faces cv
  | .linearExtrude h c cv tw sc sl fn => .linearExtrude (f h) c cv (f tw) ⟨f sc.x, f sc.y⟩ sl fn
  | .rotateExtrude a cv fa fs fn => .rotateExtrude (f a) cv (fa.map f) (fs.map f) fn
  | .surface file c i cv => .surface file c i cv
  | .translate v => .translate ⟨f v.x, f v.y, f v.z⟩
  | .rotate a sc v => .rotate (a.map f) sc ⟨f v.x, f v.y, f v.z⟩
  | .scale v => .scale ⟨f v.x, f v.y, f v.z⟩
  | .resize ns a iv av cv => .resize ⟨f ns.x, f ns.y, f ns.z⟩ a iv av cv
  | .mirror v => .mirror ⟨f v.x, f v.y, f v.z⟩
  | .color rgba col hex alpha => .color (rgba.map fun p => ⟨f p.x, f p.y, f p.z, f p.w⟩) col hex (alpha.map f)
  | .offset r d ch => .offset (r.map f) (d.map f) ch
  | .minkowski cv => .minkowski cv

mutual
def Scad.map {ν μ : Type} (f : ν → μ) : Scad ν → Scad μ
  | .mk op cs => .mk (op.map f) (ScadList.map f cs)
def ScadList.map {ν μ : Type} (f : ν → μ) : ScadList ν → ScadList μ
  | .nil => .nil
  | .cons h t => .cons (Scad.map f h) (ScadList.map f t)
end

/-! ## files (`Scad::save`, `scad_file!`) -/
/-- the global settings a `scad_file!` form writes before the children -/
inductive Settings (ν : Type) where
  | none
  | fa (fa : ν)
  | fs (fs : ν)
  | faFs (fa fs : ν)
  | fn (n : Nat)

/-- `format!("$fa={};\n", fa)` … -/
def Settings.lines {ν : Type} (showNum : ν → List Char) : Settings ν → List Char
  | .none => []
  | .fa a => c!"$fa=" ++ showNum a ++ c!";\n"
  | .fs s => c!"$fs=" ++ showNum s ++ c!";\n"
  | .faFs a s => c!"$fa=" ++ showNum a ++ c!";\n" ++ (c!"$fs=" ++ showNum s ++ c!";\n")
  | .fn n => c!"$fn=" ++ natDigits n ++ c!";\n"

/-- the bytes of the file are the UTF-8 of: settings lines, then the emission of each child -/
def fileContent {ν : Type} (showNum : ν → List Char) (g : Settings ν) (children : List (Scad ν)) : List Char :=
  g.lines showNum ++ emitAll showNum children

/-- `Scad::save` -/
def saveContent {ν : Type} (showNum : ν → List Char) (t : Scad ν) : List Char := t.emit showNum

/-! ## `a + b`, `a - b` -/
def Scad.add {ν} (a b : Scad ν) : Scad ν := Scad.node .union [a, b]
def Scad.sub {ν} (a b : Scad ν) : Scad ν := Scad.node .difference [a, b]

end ScadVerif
