/-
Directed edges of the quad strips the mesh builders emit, and the gluing that makes capped strips (the caps: complete
triangulation runs), chains and cycles of strips closed surfaces (as edge multisets) — all through a handful of
lemmas about `EdgeClosed`; the revolve half (`stripRev`) mirrors the sweep half (`strip`).  Then the rest of the
oracle's `Spec.closedOriented`: no directed edge twice in a strip or across the strips of a cycle, valid faces
(`closedOriented_of`).
-/
import Mathlib.Data.List.Rotate
import Mathlib.Data.List.Nodup
import Mathlib.Data.List.Perm.Basic
import ScadVerif.Model.Dim3
import ScadVerif.Spec.Mesh
import ScadVerif.Lemmas.TriLemmas
namespace ScadVerif.MeshLemmas
open ScadVerif ScadVerif.Spec ScadVerif.Dim3 ScadVerif.Dim3.Polyhedron ScadVerif.Tri ScadVerif.TriLemmas

abbrev Edge := Nat × Nat

/-! Ring `r`: the point indices `r*n … r*n + n-1`.  `ringF n r`: its edges in list direction, closing `n-1 → 0`;
`ups n lo hi`: the rungs, from point `j` of ring `lo` to point `j` of ring `hi`. -/
def ringF (n r : Nat) : List Edge := (List.range n).map fun i => (r * n + i, r * n + (i + 1) % n)
def ups (n lo hi : Nat) : List Edge := (List.range n).map fun j => (lo * n + j, hi * n + j)
/-- every edge as often as its reverse -/
def EdgeClosed (es : List Edge) : Prop := (es.map Prod.swap).Perm es
/-- `(ringF n 0).map (shift (k * n))` is ring `k` (`ringF_shift`) -/
def shift (off : Nat) (e : Edge) : Edge := (e.1 + off, e.2 + off)

theorem faceEdges_eq_ring : ∀ f : List Nat, faceEdges f = Ring.ringPairs f
  | [] => rfl
  | v0 :: t => by
    have go : ∀ l : List Nat, faceEdges.go v0 l = Ring.pairsTo l v0 := fun l => by
      induction l with
      | nil => rfl
      | cons a t ih => cases t with
        | nil => rfl
        | cons b r => rw [faceEdges.go, ih]; rfl
    exact go _

theorem faceEdges_quad (a b c d : Nat) : faceEdges [a, b, c, d] = [(a, b), (b, c), (c, d), (d, a)] := rfl
theorem faceEdges_tri (a b c : Nat) : faceEdges [a, b, c] = [(a, b), (b, c), (c, a)] := rfl

theorem allEdges_append (a b : List (List Nat)) : allEdges (a ++ b) = allEdges a ++ allEdges b :=
  List.flatMap_append
theorem allEdges_flatMap {β : Type} (l : List β) (f : β → List (List Nat)) :
    allEdges (l.flatMap f) = l.flatMap fun x => allEdges (f x) := List.flatMap_assoc

theorem mem_allEdges (faces : List (List Nat)) (e : Edge) (h : e ∈ allEdges faces) :
    ∃ f ∈ faces, e.1 ∈ f ∧ e.2 ∈ f := by
  obtain ⟨f, hf, he⟩ := List.mem_flatMap.mp h
  exact ⟨f, hf, Ring.mem_ringPairs f e (faceEdges_eq_ring f ▸ he)⟩

theorem allEdges_reverse (fs : List (List Nat)) :
    (allEdges (fs.map List.reverse)).Perm ((allEdges fs).map Prod.swap) := by
  rw [allEdges, allEdges, List.flatMap_map, List.map_flatMap]
  exact List.Perm.flatMap_left _ fun f _ => by
    rw [faceEdges_eq_ring, faceEdges_eq_ring]; exact Ring.ringPairs_reverse f

/-! ### `EdgeClosed`

Read `EdgeClosed (X ++ P.map Prod.swap ++ Q)` as "`X` is a patch from rim `P` to rim `Q`": apart from edges
matched by their reverse, `X` uses the edges of `P` forwards and those of `Q` backwards.  Every proof counts `e`
against `e.swap`. -/
theorem count_map_swap (l : List Edge) (e : Edge) : (l.map Prod.swap).count e = l.count e.swap := by
  rw [← List.count_map_of_injective l Prod.swap Prod.swap_injective e.swap, Prod.swap_swap]
theorem swap_swap_map (l : List Edge) : (l.map Prod.swap).map Prod.swap = l := by
  simp [List.map_map, Function.comp_def]
theorem shift_swap (k : Nat) (l : List Edge) : (l.map (shift k)).map Prod.swap = (l.map Prod.swap).map (shift k) := by
  simp [List.map_map, Function.comp_def, shift]
theorem shift_shift (a b : Nat) (l : List Edge) : (l.map (shift a)).map (shift b) = l.map (shift (a + b)) := by
  simp [List.map_map, Function.comp_def, shift, Nat.add_assoc]

theorem shift_inj (o : Nat) : Function.Injective (shift o) := fun a b h => by
  have h1 := congrArg Prod.fst h
  have h2 := congrArg Prod.snd h
  simp only [shift] at h1 h2
  exact Prod.ext (by omega) (by omega)

theorem edgeClosed_iff {es : List Edge} : EdgeClosed es ↔ ∀ e, es.count e.swap = es.count e := by
  simp only [EdgeClosed, List.perm_iff_count, count_map_swap]

theorem EdgeClosed.perm {a b : List Edge} (h : EdgeClosed a) (p : a.Perm b) : EdgeClosed b :=
  ((p.map _).symm.trans h).trans p
theorem EdgeClosed.map_swap {es : List Edge} (h : EdgeClosed es) : EdgeClosed (es.map Prod.swap) :=
  List.Perm.map _ h
theorem EdgeClosed.map_shift {es : List Edge} (k : Nat) (h : EdgeClosed es) : EdgeClosed (es.map (shift k)) := by
  unfold EdgeClosed at h ⊢
  rw [shift_swap]; exact h.map _

theorem edgeClosed_halves (x : List Edge) : EdgeClosed (x ++ x.map Prod.swap) := by
  simp only [edgeClosed_iff, List.count_append, count_map_swap, Prod.swap_swap] at *
  intro e; omega

/-- a cap of a rim `r` and of diagonals used in both directions has `r` as boundary -/
theorem EdgeClosed.of_tiles {c r d : List Edge} (h : c.Perm (r ++ d ++ d.map Prod.swap)) :
    EdgeClosed (c ++ r.map Prod.swap) :=
  (edgeClosed_halves (r ++ d)).perm (by
    rw [List.perm_iff_count] at h ⊢; intro e; have := h e
    simp only [List.map_append, List.count_append] at this ⊢; omega)

theorem EdgeClosed.of_tiles' {c r d : List Edge} (h : c.Perm (r.map Prod.swap ++ d ++ d.map Prod.swap)) :
    EdgeClosed (c ++ r) := by
  simpa only [swap_swap_map] using EdgeClosed.of_tiles h

/-- **composition**: a patch from rim `P` to `Q`, then one from `Q` to `R` -/
theorem EdgeClosed.trans {X Y P Q R : List Edge} (h₁ : EdgeClosed (X ++ P.map Prod.swap ++ Q))
    (h₂ : EdgeClosed (Y ++ Q.map Prod.swap ++ R)) : EdgeClosed (X ++ Y ++ P.map Prod.swap ++ R) := by
  simp only [edgeClosed_iff, List.count_append, count_map_swap, Prod.swap_swap] at *
  intro e; have := h₁ e; have := h₂ e; omega

/-- **telescoping**: patches `B j` from rim `P j` to `P (j+1)` form a patch from `P 0` to `P k` -/
theorem chain_closed (B P : Nat → List Edge) (h : ∀ j, EdgeClosed (B j ++ (P j).map Prod.swap ++ P (j + 1))) :
    ∀ k, EdgeClosed ((List.range k).flatMap B ++ (P 0).map Prod.swap ++ P k)
  | 0 => (edgeClosed_halves _).perm List.perm_append_comm
  | k + 1 => by
    rw [List.range_succ, List.flatMap_append, List.flatMap_singleton]
    exact (chain_closed B P h k).trans (h k)

/-- **caps** on the two open rims of a patch close it -/
theorem EdgeClosed.caps {A X C P Q : List Edge} (hX : EdgeClosed (X ++ P.map Prod.swap ++ Q))
    (hA : EdgeClosed (A ++ P)) (hC : EdgeClosed (C ++ Q.map Prod.swap)) : EdgeClosed (A ++ X ++ C) := by
  simp only [edgeClosed_iff, List.count_append, count_map_swap, Prod.swap_swap] at *
  intro e; have := hX e; have := hA e; have := hC e; omega

/-- **loop**: a patch that returns to the rim it started from is closed -/
theorem EdgeClosed.loop {X P : List Edge} (hX : EdgeClosed (X ++ P.map Prod.swap ++ P)) : EdgeClosed X := by
  simp only [edgeClosed_iff, List.count_append, count_map_swap, Prod.swap_swap] at *
  intro e; have := hX e; omega

/-! ### quad strips -/
theorem succ_mod_perm (n : Nat) : ((List.range n).map fun i => (i + 1) % n).Perm (List.range n) := by
  have : ((List.range n).map fun i => (i + 1) % n) = (List.range n).rotate 1 := by
    apply List.ext_getElem
    · simp
    · intro i h1 h2
      simp [List.getElem_rotate]
  rw [this]; exact List.rotate_perm _ _

theorem flatMap4_perm {β γ : Type} [DecidableEq γ] (l : List β) (f g h k : β → γ) :
    (l.flatMap fun i => [f i, g i, h i, k i]).Perm (l.map f ++ l.map g ++ l.map h ++ l.map k) := by
  induction l with
  | nil => simp
  | cons x xs ih =>
    rw [List.perm_iff_count] at ih ⊢
    intro a; have := ih a
    simp only [List.flatMap_cons, List.map_cons, List.count_append, List.count_cons, List.count_nil] at this ⊢
    omega

theorem strip_edges (n lo hi : Nat) :
    (allEdges (strip n lo hi)).Perm
      (ringF n lo ++ ups n lo hi ++ (ringF n hi).map Prod.swap ++ (ups n lo hi).map Prod.swap) := by
  have h1 : allEdges (strip n lo hi) = (List.range n).flatMap fun i =>
      [(lo * n + i, lo * n + (i + 1) % n), (lo * n + (i + 1) % n, hi * n + (i + 1) % n),
       (hi * n + (i + 1) % n, hi * n + i), (hi * n + i, lo * n + i)] := by
    simp [allEdges, strip, List.flatMap_map, faceEdges_quad]
  rw [h1]
  refine (flatMap4_perm _ _ _ _ _).trans ?_
  have hup := (succ_mod_perm n).map fun j => (lo * n + j, hi * n + j)
  simp only [ringF, ups, List.map_map, Function.comp_def, Prod.swap_prod_mk] at hup ⊢
  exact ((List.Perm.refl _).append hup).append (List.Perm.refl _) |>.append (List.Perm.refl _)

theorem strip_closed (n lo hi : Nat) :
    EdgeClosed (allEdges (strip n lo hi) ++ (ringF n lo).map Prod.swap ++ ringF n hi) := by
  have h := strip_edges n lo hi
  simp only [edgeClosed_iff, List.perm_iff_count, List.count_append, count_map_swap, Prod.swap_swap] at *
  intro e; have := h e; have := h e.swap; simp only [Prod.swap_swap] at *; omega

/-- **a revolve strip mirrors the sweep strip**: quad `i` is quad `i` of `strip` read backwards -/
theorem stripRev_mirror (n lo hi : Nat) :
    (allEdges (stripRev n lo hi)).Perm ((allEdges (strip n lo hi)).map Prod.swap) := by
  simp only [allEdges, strip, stripRev, List.flatMap_map, List.map_flatMap, faceEdges_quad]
  exact List.Perm.flatMap_left _ fun i _ => (List.reverse_perm _).symm

theorem stripRev_eq (n lo hi : Nat) : stripRev n lo hi = (strip n lo hi).map fun f => f.reverse.rotate 3 := by
  simp only [strip, stripRev, List.map_map]; rfl

theorem stripRev_faces (n lo hi : Nat) : ∀ f ∈ stripRev n lo hi, ∃ g ∈ strip n lo hi, f.Perm g := by
  rw [stripRev_eq]
  intro f hf
  obtain ⟨g, hg, rfl⟩ := List.mem_map.mp hf
  exact ⟨g, hg, (List.rotate_perm _ _).trans (List.reverse_perm _)⟩

theorem stripRev_edges (n lo hi : Nat) :
    (allEdges (stripRev n lo hi)).Perm
      (ups n lo hi ++ ringF n hi ++ (ups n lo hi).map Prod.swap ++ (ringF n lo).map Prod.swap) := by
  refine (stripRev_mirror n lo hi).trans (((strip_edges n lo hi).map _).trans ?_)
  simp only [List.map_append, swap_swap_map, List.perm_iff_count, List.count_append]
  intro e; omega

/-! ### no directed edge twice -/
theorem succ_mod_cases {i n : Nat} (h : i < n) : (i + 1) % n = i + 1 ∧ i + 1 < n ∨ (i + 1) % n = 0 ∧ i + 1 = n := by
  rcases Nat.lt_or_ge (i + 1) n with h' | h'
  · exact Or.inl ⟨Nat.mod_eq_of_lt h', h'⟩
  · obtain rfl : i + 1 = n := by omega
    exact Or.inr ⟨Nat.mod_self _, rfl⟩

theorem ring_div {n i : Nat} (r : Nat) (h : i < n) : (r * n + i) / n = r := by
  rw [Nat.mul_comm, Nat.mul_add_div (by omega), Nat.div_eq_of_lt h, Nat.add_zero]

theorem ringF_div (n r : Nat) (e : Edge) (h : e ∈ ringF n r) : e.1 / n = r ∧ e.2 / n = r := by
  obtain ⟨i, hi, rfl⟩ := List.mem_map.mp h
  have hi := List.mem_range.mp hi
  exact ⟨ring_div r hi, ring_div r (Nat.mod_lt _ (by omega))⟩
theorem ups_div (n lo hi : Nat) (e : Edge) (h : e ∈ ups n lo hi) : e.1 / n = lo ∧ e.2 / n = hi := by
  obtain ⟨i, hi', rfl⟩ := List.mem_map.mp h
  exact ⟨ring_div lo (List.mem_range.mp hi'), ring_div hi (List.mem_range.mp hi')⟩

theorem ringF_nodup (n r : Nat) : (ringF n r).Nodup :=
  List.Nodup.map_on (fun a _ b _ h => by simp only [Prod.mk.injEq] at h; omega) List.nodup_range
theorem ups_nodup (n lo hi : Nat) : (ups n lo hi).Nodup :=
  List.Nodup.map_on (fun a _ b _ h => by simp only [Prod.mk.injEq] at h; omega) List.nodup_range

theorem mem_map_swap (l : List Edge) (e : Edge) : e ∈ l.map Prod.swap ↔ e.swap ∈ l := by
  rw [← List.mem_map_of_injective Prod.swap_injective (a := e.swap), Prod.swap_swap]

theorem ringF_swap_disjoint (n r : Nat) (hn : 3 ≤ n) (e : Edge) (h1 : e ∈ ringF n r) (h2 : e.swap ∈ ringF n r) : False := by
  simp only [ringF, List.mem_map, List.mem_range] at h1 h2
  obtain ⟨i, hi, rfl⟩ := h1
  obtain ⟨k, hk, hke⟩ := h2
  simp only [Prod.swap_prod_mk, Prod.mk.injEq] at hke
  rcases succ_mod_cases hi with h | h <;> rcases succ_mod_cases hk with h' | h' <;> omega

/-- A strip edge runs inside ring `lo` forwards, inside ring `hi` backwards, or between the rings; the rings of its
endpoints (`/ n`) tell which. -/
theorem strip_edge_kind (n lo hi : Nat) (e : Edge) (h : e ∈ allEdges (strip n lo hi)) :
    (e ∈ ringF n lo ∧ e.1 / n = lo ∧ e.2 / n = lo) ∨ (e.swap ∈ ringF n hi ∧ e.1 / n = hi ∧ e.2 / n = hi) ∨
      (e.1 / n = lo ∧ e.2 / n = hi ∨ e.1 / n = hi ∧ e.2 / n = lo) := by
  have := (strip_edges n lo hi).subset h
  simp only [List.mem_append, mem_map_swap] at this
  rcases this with ((h | h) | h) | h
  · exact .inl ⟨h, ringF_div n lo e h⟩
  · exact .inr (.inr (.inl (ups_div n lo hi e h)))
  · exact .inr (.inl ⟨h, (ringF_div n hi _ h).symm⟩)
  · exact .inr (.inr (.inr (ups_div n lo hi _ h).symm))

theorem strip_edges_nodup (n lo hi : Nat) (h : lo ≠ hi) : (allEdges (strip n lo hi)).Nodup := by
  rw [(strip_edges n lo hi).nodup_iff]
  have k1 := ringF_div n lo
  have k2 := ups_div n lo hi
  have k3 : ∀ e ∈ (ringF n hi).map Prod.swap, e.2 / n = hi ∧ e.1 / n = hi := fun e he =>
    ringF_div n hi _ ((mem_map_swap _ e).mp he)
  have k4 : ∀ e ∈ (ups n lo hi).map Prod.swap, e.2 / n = lo ∧ e.1 / n = hi := fun e he =>
    ups_div n lo hi _ ((mem_map_swap _ e).mp he)
  simp only [List.nodup_append, List.mem_append]
  refine ⟨⟨⟨ringF_nodup n lo, ups_nodup n lo hi, ?_⟩, (ringF_nodup n hi).map Prod.swap_injective, ?_⟩,
    (ups_nodup n lo hi).map Prod.swap_injective, ?_⟩
  · rintro a ha _ hb rfl
    have := k1 a ha; have := k2 a hb; omega
  · rintro a (ha | ha) _ hb rfl
    · have := k1 a ha; have := k3 a hb; omega
    · have := k2 a ha; have := k3 a hb; omega
  · rintro a ((ha | ha) | ha) _ hb rfl
    · have := k1 a ha; have := k4 a hb; omega
    · have := k2 a ha; have := k4 a hb; omega
    · have := k3 a ha; have := k4 a hb; omega

/-- Excluded: same start ring, same end ring, each other's reverse.  Otherwise a common edge would run inside a common
ring, forwards for one strip and backwards for the other (`strip_edge_kind`). -/
theorem strip_edges_disjoint (n : Nat) (hn : 3 ≤ n) {a b c d : Nat} (hac : a ≠ c)
    (hbd : b ≠ d) (hback : ¬(a = d ∧ b = c)) : (allEdges (strip n a b)).Disjoint (allEdges (strip n c d)) := by
  intro e h1 h2
  rcases strip_edge_kind n a b e h1 with ⟨m1, _, _⟩ | ⟨m1, _, _⟩ | x1
  · rcases strip_edge_kind n c d e h2 with ⟨_, _, _⟩ | ⟨m2, _, _⟩ | x2
    · omega
    · obtain rfl : a = d := by omega
      exact ringF_swap_disjoint n a hn e m1 m2
    · omega
  · rcases strip_edge_kind n c d e h2 with ⟨m2, _, _⟩ | ⟨_, _, _⟩ | x2
    · obtain rfl : b = c := by omega
      exact ringF_swap_disjoint n b hn e m2 m1
    · omega
    · omega
  · rcases strip_edge_kind n c d e h2 with ⟨_, _, _⟩ | ⟨_, _, _⟩ | x2 <;> omega

/-! ### chains and cycles of strips: the bodies of sweeps and revolves

`sweepBody` / `revolveBody`: the strips `j → j+1`, `j < k`, of a sweep / revolve, an open tube over rings `0 … k`.
`closedStrips` / `fullStrips`: the same with the last strip returning to ring 0 — a closed sweep / 360° revolve. -/
def sweepBody (n k : Nat) : List (List Nat) := (List.range k).flatMap fun j => strip n j (j + 1)
def revolveBody (n k : Nat) : List (List Nat) := (List.range k).flatMap fun j => stripRev n j (j + 1)
def closedStrips (n len : Nat) : List (List Nat) := (List.range len).flatMap fun j => strip n j ((j + 1) % len)
def fullStrips (n seg : Nat) : List (List Nat) := (List.range seg).flatMap fun j => stripRev n j ((j + 1) % seg)

theorem sweepBody_succ (n k : Nat) : sweepBody n (k + 1) = sweepBody n k ++ strip n k (k + 1) := by
  simp [sweepBody, List.range_succ]
theorem revolveBody_succ (n k : Nat) : revolveBody n (k + 1) = revolveBody n k ++ stripRev n k (k + 1) := by
  simp [revolveBody, List.range_succ]

/-- the chain `0 → 1 → … → k` and the way back `k → 0` -/
theorem cycle_succ {β : Type} (S : Nat → Nat → List β) (k : Nat) :
    ((List.range (k + 1)).flatMap fun j => S j ((j + 1) % (k + 1))) =
      ((List.range k).flatMap fun j => S j (j + 1)) ++ S k 0 := by
  rw [List.range_succ, List.flatMap_append, List.flatMap_singleton, Nat.mod_self]
  congr 1
  exact List.flatMap_congr fun j hj => by rw [Nat.mod_eq_of_lt (by simpa using hj)]
theorem closedStrips_succ (n k : Nat) : closedStrips n (k + 1) = sweepBody n k ++ strip n k 0 :=
  cycle_succ (strip n) k
theorem fullStrips_succ (n k : Nat) : fullStrips n (k + 1) = revolveBody n k ++ stripRev n k 0 :=
  cycle_succ (stripRev n) k

theorem mirror_flatMap (l : List Nat) (F G : Nat → List (List Nat))
    (h : ∀ j ∈ l, (allEdges (G j)).Perm ((allEdges (F j)).map Prod.swap)) :
    (allEdges (l.flatMap G)).Perm ((allEdges (l.flatMap F)).map Prod.swap) := by
  rw [allEdges_flatMap, allEdges_flatMap, List.map_flatMap]
  exact List.Perm.flatMap_left l h
theorem revolveBody_mirror (n k : Nat) :
    (allEdges (revolveBody n k)).Perm ((allEdges (sweepBody n k)).map Prod.swap) :=
  mirror_flatMap _ _ _ fun j _ => stripRev_mirror n j (j + 1)
theorem fullStrips_mirror (n seg : Nat) :
    (allEdges (fullStrips n seg)).Perm ((allEdges (closedStrips n seg)).map Prod.swap) :=
  mirror_flatMap _ _ _ fun j _ => stripRev_mirror n j ((j + 1) % seg)

theorem sweepBody_closed (n : Nat) : ∀ k,
    EdgeClosed (allEdges (sweepBody n k) ++ (ringF n 0).map Prod.swap ++ ringF n k) := fun k => by
  rw [sweepBody, allEdges_flatMap]
  exact chain_closed _ (ringF n) (fun j => strip_closed n j (j + 1)) k

/-- the inner rings cancel; ring 0 forwards and ring k backwards are what the two caps, or the closing strip,
contribute -/
theorem revolveBody_closed (n : Nat) : ∀ k,
    EdgeClosed (allEdges (revolveBody n k) ++ ringF n 0 ++ (ringF n k).map Prod.swap) := fun k => by
  have h := (sweepBody_closed n k).map_swap
  rw [List.map_append, List.map_append, swap_swap_map] at h
  exact h.perm (((revolveBody_mirror n k).symm.append_right _).append_right _)

/-- **a closed sweep is closed**, unconditionally -/
theorem closedStrips_closed (n : Nat) : ∀ len, EdgeClosed (allEdges (closedStrips n len))
  | 0 => List.Perm.refl _
  | k + 1 => by
    rw [closedStrips_succ, allEdges_append]
    exact ((sweepBody_closed n k).trans (strip_closed n k 0)).loop
/-- **a full (360°) revolve is closed**, unconditionally -/
theorem fullStrips_closed (n seg : Nat) : EdgeClosed (allEdges (fullStrips n seg)) :=
  (closedStrips_closed n seg).map_swap.perm (fullStrips_mirror n seg).symm

/-- Both bounds are needed: in a ring of two points `(0,1)` and `(1,0)` are each other's reverse, and with two rings
the strips `0→1` and `1→0` share their rungs; either way a directed edge occurs twice. -/
theorem closedStrips_nodup (n len : Nat) (hn : 3 ≤ n) (hl : 3 ≤ len) : (allEdges (closedStrips n len)).Nodup := by
  rw [closedStrips, allEdges_flatMap, List.nodup_flatMap]
  refine ⟨fun j hj => strip_edges_nodup n j _ ?_, List.pairwise_lt_range.imp_of_mem fun {j k} hj hk hjk => ?_⟩
  · rcases succ_mod_cases (List.mem_range.mp hj) with h | h <;> omega
  · rcases succ_mod_cases (List.mem_range.mp hj) with h | h <;> rcases succ_mod_cases (List.mem_range.mp hk) with h' | h' <;>
      exact strip_edges_disjoint n hn (by omega) (by omega) (by omega)

theorem fullStrips_nodup (n seg : Nat) (hn : 3 ≤ n) (hseg : 3 ≤ seg) : (allEdges (fullStrips n seg)).Nodup :=
  (fullStrips_mirror n seg).nodup_iff.mpr ((closedStrips_nodup n seg hn hseg).map Prod.swap_injective)

theorem strip_quads (n lo hi : Nat) : ∀ f ∈ strip n lo hi, f.length = 4 := fun f hf => by
  obtain ⟨i, _, rfl⟩ := List.mem_map.mp hf
  rfl

theorem strip_indices (n lo hi m : Nat) (hlo : lo < m) (hhi : hi < m) : ∀ f ∈ strip n lo hi, ∀ v ∈ f, v < m * n := by
  intro f hf v hv
  simp only [strip, List.mem_map, List.mem_range] at hf
  obtain ⟨i, hi', rfl⟩ := hf
  have hm : (i + 1) % n < n := Nat.mod_lt _ (by omega)
  have h1 : (lo + 1) * n ≤ m * n := Nat.mul_le_mul_right _ hlo
  have h2 : (hi + 1) * n ≤ m * n := Nat.mul_le_mul_right _ hhi
  rw [Nat.succ_mul] at h1 h2
  simp only [List.mem_cons, List.not_mem_nil, or_false] at hv
  rcases hv with rfl | rfl | rfl | rfl <;> omega

theorem strip_quad_nodup (n lo hi : Nat) (hn : 2 ≤ n) (h : lo ≠ hi) : ∀ f ∈ strip n lo hi, f.Nodup := by
  intro f hf
  simp only [strip, List.mem_map, List.mem_range] at hf
  obtain ⟨i, hi', rfl⟩ := hf
  have hm : (i + 1) % n < n := Nat.mod_lt _ (by omega)
  have h1 : lo * n + n ≤ hi * n ∨ hi * n + n ≤ lo * n := by
    rcases Nat.lt_or_gt_of_ne h with h | h
    · exact .inl (Nat.succ_mul lo n ▸ Nat.mul_le_mul_right n h)
    · exact .inr (Nat.succ_mul hi n ▸ Nat.mul_le_mul_right n h)
  simp only [List.nodup_cons, List.mem_cons, List.not_mem_nil, or_false, not_or, List.nodup_nil, and_true,
    not_false_eq_true]
  rcases succ_mod_cases hi' with h | h <;> omega

theorem closedStrips_faces (n len : Nat) (hn : 2 ≤ n) (hl : 2 ≤ len) :
    ∀ f ∈ closedStrips n len, 3 ≤ f.length ∧ (∀ v ∈ f, v < len * n) ∧ f.Nodup := by
  intro f hf
  obtain ⟨j, hj, hf⟩ := List.mem_flatMap.mp hf
  have hj := List.mem_range.mp hj
  exact ⟨by rw [strip_quads _ _ _ f hf]; omega, strip_indices n _ _ len hj (Nat.mod_lt _ (by omega)) f hf,
    strip_quad_nodup n _ _ hn (by rcases succ_mod_cases hj with h | h <;> omega) f hf⟩

theorem fullStrips_faces (n seg : Nat) (hn : 2 ≤ n) (hs : 2 ≤ seg) :
    ∀ f ∈ fullStrips n seg, 3 ≤ f.length ∧ (∀ v ∈ f, v < seg * n) ∧ f.Nodup := by
  intro f hf
  obtain ⟨j, hj, hf⟩ := List.mem_flatMap.mp hf
  obtain ⟨g, hg, p⟩ := stripRev_faces n j _ f hf
  obtain ⟨h1, h2, h3⟩ := closedStrips_faces n seg hn hs g (List.mem_flatMap.mpr ⟨j, hj, hg⟩)
  exact ⟨p.length_eq ▸ h1, fun v hv => h2 v (p.mem_iff.mp hv), p.nodup_iff.mpr h3⟩

theorem ringE_range (n : Nat) (hn : 1 ≤ n) : ringE (List.range n) = ringF n 0 := by
  rw [ringE_eq _ (fun h => by simp [List.range_eq_nil] at h; omega), Ring.ringPairs_eq_range 0, List.length_range]
  apply List.map_congr_left
  intro i hi
  have hm : (i + 1) % n < n := Nat.mod_lt _ hn
  simp [List.getD_eq_getElem?_getD, List.mem_range.mp hi, hm]

theorem ringE_reverse (l : List Nat) (hl : l ≠ []) : (ringE l.reverse).Perm ((ringE l).map Prod.swap) := by
  rw [ringE_eq _ hl, ringE_eq _ (by simpa using hl)]; exact Ring.ringPairs_reverse l

/-! ### caps from complete triangulation runs -/
theorem triFaces_eq_triples (off : Nat) : ∀ l : List Nat, triFaces off l = (triples l).map (List.map (· + off))
  | [] => rfl
  | [_] => rfl
  | [_, _] => rfl
  | _ :: _ :: _ :: rest => congrArg _ (triFaces_eq_triples off rest)

theorem triples_labels {α : Type} (ts : List (Tri3 α)) : triples (labels ts) = ts.map triLabels := by
  induction ts with
  | nil => rfl
  | cons t ts ih =>
    simp only [labels, List.flatMap_cons, triLabels, List.map_cons] at ih ⊢
    simp only [List.cons_append, List.nil_append, triples, ih]

section Caps
set_option linter.unusedSectionVars false
variable {α : Type} [Add α] [Sub α] [Mul α] [Div α] [Neg α] [OfNat α 0] [OfNat α 1] [Cmp α]

theorem triFaces_labels (off : Nat) (ts : List (Tri3 α)) :
    allEdges (triFaces off (labels ts)) = (runEdges ts).map (shift off) := by
  rw [triFaces_eq_triples, triples_labels, allEdges, runEdges, List.map_map, List.flatMap_map, List.map_flatMap]
  rfl

theorem map_shift_zero (l : List Edge) : l.map (shift 0) = l := List.map_id'' (fun _ => rfl) l
theorem ringF_shift (n r k : Nat) : (ringF n r).map (shift (k * n)) = ringF n (r + k) := by
  simp only [ringF, List.map_map]
  apply List.map_congr_left
  intro i _
  simp only [Function.comp, shift, Nat.add_mul]
  apply Prod.ext <;> (simp only []; omega)

/-- **complete runs have the ring as boundary**: when the loop leaves two vertices, the triangles are a cap with the
input boundary as rim — the tiling certificate's edge half, for every input. -/
theorem complete_run_boundary (fuel : Nat) (poly : Poly α) (ccw : Bool)
    (hc : (clipRun fuel poly ccw []).2.length = 2) :
    EdgeClosed (runEdges (clipRun fuel poly ccw []).1 ++ (ringE (lab poly)).map Prod.swap) := by
  obtain ⟨D, hD⟩ := clipRun_edges fuel poly ccw
  -- the boundary of the two vertices left is its own reverse
  have hsw : EdgeClosed (ringE (lab (clipRun fuel poly ccw []).2)) := by
    obtain ⟨u, v, huv⟩ := List.length_eq_two.mp hc
    rw [huv]
    exact List.Perm.swap _ _ []
  rw [List.perm_iff_count] at hD
  rw [edgeClosed_iff] at hsw ⊢
  intro x
  have h1 := hD x
  have h2 := hD x.swap
  have h3 := hsw x
  simp only [List.count_append, count_map_swap, Prod.swap_swap] at h1 h2 h3 ⊢
  omega

/-- **a complete run on any labelled polygon, at any offset, is a cap on the polygon's own boundary** -/
theorem cap_closed (poly : Poly α) (off : Nat) (hn : 2 ≤ poly.length)
    (hc : (triangulate poly).length = 3 * (poly.length - 2)) :
    EdgeClosed (allEdges (triFaces off (triangulate poly)) ++ ((ringE (lab poly)).map (shift off)).map Prod.swap) := by
  have hb := EdgeClosed.map_shift off
    (complete_run_boundary poly.length poly (refCcw poly) (complete_residual poly _ hn hc))
  rw [List.map_append, ← triFaces_labels, ← shift_swap] at hb
  rwa [triangulate, clip_nil]

/-- **top cap**: a complete `triangulate2d` run written at offset `off` has the ring there, forwards, as boundary -/
theorem cap_forward (vs : List (Pt2 α)) (off : Nat) (hn : 2 ≤ vs.length)
    (hc : (triangulate (indexed vs)).length = 3 * (vs.length - 2)) :
    EdgeClosed (allEdges (triFaces off (triangulate (indexed vs))) ++
      ((ringF vs.length 0).map (shift off)).map Prod.swap) := by
  have := cap_closed (indexed vs) off (by rwa [indexed_length]) (by rwa [indexed_length])
  rwa [lab_indexed, ringE_range _ (by omega)] at this

theorem cap_backward_at (vs : List (Pt2 α)) (off : Nat) (hn : 2 ≤ vs.length)
    (hc : (triangulate (indexed vs).reverse).length = 3 * (vs.length - 2)) :
    EdgeClosed (allEdges (triFaces off (triangulate (indexed vs).reverse)) ++ (ringF vs.length 0).map (shift off)) := by
  have hl : (indexed vs).reverse.length = vs.length := by simp [indexed]
  have := cap_closed (indexed vs).reverse off (by rwa [hl]) (by rwa [hl])
  rw [lab_reverse, lab_indexed] at this
  refine this.perm (List.Perm.append_left _ ?_)
  have hr := ((ringE_reverse (List.range vs.length) (by rw [Ne, List.range_eq_nil]; omega)).map (shift off)).map Prod.swap
  rwa [← shift_swap, swap_swap_map, ringE_range _ (by omega)] at hr

/-- **bottom cap**: a complete `triangulate2d_rev` run has ring 0 *backwards* as boundary -/
theorem cap_backward (vs : List (Pt2 α)) (hn : 2 ≤ vs.length)
    (hc : (triangulate (indexed vs).reverse).length = 3 * (vs.length - 2)) :
    EdgeClosed (allEdges (triFaces 0 (triangulate (indexed vs).reverse)) ++ ringF vs.length 0) := by
  simpa only [map_shift_zero] using cap_backward_at vs 0 hn hc

end Caps

/-! ### gluing caps to bodies -/
theorem capped_strip_closed' (n lo hi : Nat) (capLo capHi : List Edge)
    (hlo : EdgeClosed (capLo ++ ringF n lo)) (hhi : EdgeClosed (capHi ++ (ringF n hi).map Prod.swap)) :
    EdgeClosed (capLo ++ capHi ++ allEdges (strip n lo hi)) :=
  ((strip_closed n lo hi).caps hlo hhi).perm (by
    simpa only [List.append_assoc] using List.perm_append_comm.append_left capLo)

/-- **gluing**: the lower cap uses its ring edges backwards, the upper cap forwards, each otherwise every edge in
both directions -/
theorem capped_strip_closed (n lo hi : Nat) (capLo capHi dLo dHi : List Edge)
    (hlo : capLo.Perm ((ringF n lo).map Prod.swap ++ dLo ++ dLo.map Prod.swap))
    (hhi : capHi.Perm (ringF n hi ++ dHi ++ dHi.map Prod.swap)) :
    EdgeClosed (capLo ++ capHi ++ allEdges (strip n lo hi)) :=
  capped_strip_closed' n lo hi capLo capHi (.of_tiles' hlo) (.of_tiles hhi)

/-- start cap: ring 0 backwards, end cap: ring k forwards -/
theorem openSweep_closed (n k : Nat) (capStart capEnd dS dE : List Edge)
    (hS : capStart.Perm ((ringF n 0).map Prod.swap ++ dS ++ dS.map Prod.swap))
    (hE : capEnd.Perm (ringF n k ++ dE ++ dE.map Prod.swap)) :
    EdgeClosed (capStart ++ allEdges (sweepBody n k) ++ capEnd) :=
  (sweepBody_closed n k).caps (.of_tiles' hS) (.of_tiles hE)

/-- start cap: ring 0 forwards, end cap: ring k backwards -/
theorem partialRevolve_closed' (n k : Nat) (capStart capEnd : List Edge)
    (hS : EdgeClosed (capStart ++ (ringF n 0).map Prod.swap)) (hE : EdgeClosed (capEnd ++ ringF n k)) :
    EdgeClosed (capStart ++ allEdges (revolveBody n k) ++ capEnd) := by
  have h := revolveBody_closed n k
  rw [← swap_swap_map (ringF n 0)] at h
  rw [← swap_swap_map (ringF n k)] at hE
  exact h.caps hS hE

theorem mem_triples : ∀ (l : List Nat), ∀ t ∈ triples l, ∃ a ∈ l, ∃ b ∈ l, ∃ c ∈ l, t = [a, b, c]
  | [], _, ht => absurd ht List.not_mem_nil
  | [_], _, ht => absurd ht List.not_mem_nil
  | [_, _], _, ht => absurd ht List.not_mem_nil
  | a :: b :: c :: rest, t, ht => by
    rcases List.mem_cons.mp ht with rfl | ht
    · exact ⟨a, by simp, b, by simp, c, by simp, rfl⟩
    · obtain ⟨x, hx, y, hy, z, hz, rfl⟩ := mem_triples rest t ht
      exact ⟨x, by simp [hx], y, by simp [hy], z, by simp [hz], rfl⟩

theorem triFaces_valid (off bound : Nat) (l : List Nat) (h : ∀ i ∈ l, i < bound) :
    ∀ f ∈ triFaces off l, f.length = 3 ∧ ∀ v ∈ f, off ≤ v ∧ v < bound + off := by
  intro f hf
  rw [triFaces_eq_triples] at hf
  obtain ⟨t, ht, rfl⟩ := List.mem_map.mp hf
  obtain ⟨a, ha, b, hb, c, hc, rfl⟩ := mem_triples l t ht
  refine ⟨rfl, fun v hv => ?_⟩
  have := h a ha; have := h b hb; have := h c hc
  simp only [List.map_cons, List.map_nil, List.mem_cons, List.not_mem_nil, or_false] at hv
  rcases hv with rfl | rfl | rfl <;> omega

theorem capped_valid (n : Nat) (bottom top : List Nat) (hb : ∀ i ∈ bottom, i < n) (ht : ∀ i ∈ top, i < n) :
    ∀ f ∈ triFaces 0 bottom ++ triFaces n top ++ strip n 0 1,
      (∀ v ∈ f, v < 2 * n) ∧ (f.length = 3 ∨ f.length = 4) := by
  intro f hf
  simp only [List.mem_append] at hf
  rcases hf with (hf | hf) | hf
  · have := triFaces_valid 0 n bottom hb f hf
    exact ⟨fun v hv => by have := this.2 v hv; omega, .inl this.1⟩
  · have := triFaces_valid n n top ht f hf
    exact ⟨fun v hv => by have := this.2 v hv; omega, .inl this.1⟩
  · exact ⟨strip_indices n 0 1 2 (by omega) (by omega) f hf, .inr (strip_quads n 0 1 f hf)⟩

/-! ### from edge multisets to the oracle's Boolean -/
theorem sortedNodup_of_nodup : ∀ l : List Nat, l.Nodup → sortedNodup l = true
  | [], _ => rfl
  | [_], _ => rfl
  | a :: b :: rest, h => by
    simp only [sortedNodup, Bool.and_eq_true, bne_iff_ne, ne_eq]
    refine ⟨?_, sortedNodup_of_nodup (b :: rest) (List.nodup_cons.mp h).2⟩
    intro hab; subst hab
    exact (List.nodup_cons.mp h).1 (by simp)

theorem mergeSort_eq_of_perm (l₁ l₂ : List Nat) (h : l₁.Perm l₂) :
    l₁.mergeSort (· ≤ ·) = l₂.mergeSort (· ≤ ·) := by
  have tr : ∀ a b c : Nat, decide (a ≤ b) = true → decide (b ≤ c) = true → decide (a ≤ c) = true := by
    intro a b c h1 h2; simp only [decide_eq_true_eq] at *; omega
  have tot : ∀ a b : Nat, (decide (a ≤ b) || decide (b ≤ a)) = true := by
    intro a b; simp only [Bool.or_eq_true, decide_eq_true_eq]; omega
  apply List.Perm.eq_of_pairwise (le := fun a b => decide (a ≤ b) = true)
  · intro a b _ _ h1 h2; simp only [decide_eq_true_eq] at h1 h2; omega
  · exact List.pairwise_mergeSort tr tot l₁
  · exact List.pairwise_mergeSort tr tot l₂
  · exact (List.mergeSort_perm l₁ _).trans (h.trans (List.mergeSort_perm l₂ _).symm)

theorem edgeKey_inj (m : Nat) (e f : Edge) (he : e.2 < m) (hf : f.2 < m) (h : edgeKey m e = edgeKey m f) : e = f := by
  unfold edgeKey at h
  have h1 : (e.1 * m + e.2) / m = (f.1 * m + f.2) / m := by rw [h]
  have h2 : (e.1 * m + e.2) % m = (f.1 * m + f.2) % m := by rw [h]
  have hm : 0 < m := by omega
  rw [Nat.mul_comm e.1, Nat.mul_comm f.1, Nat.mul_add_div hm, Nat.mul_add_div hm,
    Nat.div_eq_of_lt he, Nat.div_eq_of_lt hf] at h1
  rw [Nat.mul_comm e.1, Nat.mul_comm f.1, Nat.mul_add_mod, Nat.mul_add_mod, Nat.mod_eq_of_lt he,
    Nat.mod_eq_of_lt hf] at h2
  exact Prod.ext (by omega) h2

/-- Over `n` points: every face has ≥ 3 distinct vertices below `n` (`hv`), no directed edge occurs twice (`hnd`), the
edges are closed under reversal (`hcl`) — the three conjuncts of `Spec.closedOriented`. -/
theorem closedOriented_of (n : Nat) (faces : List (List Nat))
    (hv : ∀ f ∈ faces, 3 ≤ f.length ∧ (∀ v ∈ f, v < n) ∧ f.Nodup)
    (hnd : (allEdges faces).Nodup) (hcl : EdgeClosed (allEdges faces)) :
    closedOriented n faces = true := by
  unfold closedOriented
  simp only [Bool.and_eq_true, List.all_eq_true, decide_eq_true_eq, beq_iff_eq]
  refine ⟨⟨?_, ?_⟩, ?_⟩
  · intro f hf
    obtain ⟨h3, hlt, hnd'⟩ := hv f hf
    refine ⟨⟨h3, hlt⟩, ?_⟩
    unfold pairwiseDistinct
    exact sortedNodup_of_nodup _ ((List.mergeSort_perm f _).nodup_iff.mpr hnd')
  · apply sortedNodup_of_nodup
    rw [(List.mergeSort_perm _ _).nodup_iff]
    apply List.Nodup.map_on _ hnd
    intro e he f hf hk
    obtain ⟨fe, hfe, _, he2⟩ := mem_allEdges faces e he
    obtain ⟨ff, hff, _, hf2⟩ := mem_allEdges faces f hf
    exact edgeKey_inj (n + 1) e f (by have := (hv fe hfe).2.1 _ he2; omega)
      (by have := (hv ff hff).2.1 _ hf2; omega) hk
  · apply mergeSort_eq_of_perm
    have : (allEdges faces).map (fun e => edgeKey (n + 1) (e.2, e.1)) =
        ((allEdges faces).map Prod.swap).map (edgeKey (n + 1)) := by
      simp [List.map_map, Function.comp_def]
    rw [this]
    exact (hcl.map _).symm

/-- **closed sweeps and full revolves satisfy the oracle's Boolean**: `len` (resp. `seg`) rings of `n` points -/
theorem closedStrips_closedOriented (n len : Nat) (hn : 3 ≤ n) (hl : 3 ≤ len) :
    closedOriented (len * n) (closedStrips n len) = true :=
  closedOriented_of _ _ (closedStrips_faces n len (by omega) (by omega)) (closedStrips_nodup n len hn hl)
    (closedStrips_closed n len)
theorem fullStrips_closedOriented (n seg : Nat) (hn : 3 ≤ n) (hs : 3 ≤ seg) :
    closedOriented (seg * n) (fullStrips n seg) = true :=
  closedOriented_of _ _ (fullStrips_faces n seg (by omega) (by omega)) (fullStrips_nodup n seg hn hs)
    (fullStrips_closed n seg)

end ScadVerif.MeshLemmas
