/-
Folds over index ranges — the counted loops of the models (`range n`) and of the transcribed source
(`range' a n`, elements read by `getD`) — and the list facts the loop proofs share.
-/
namespace ScadVerif

theorem foldl_range_inv {σ : Type} (P : Nat → σ → Prop) (f : σ → Nat → σ) (init : σ) (n : Nat)
    (h0 : P 0 init) (hstep : ∀ k st, k < n → P k st → P (k + 1) (f st k)) :
    P n ((List.range n).foldl f init) := by
  induction n with
  | zero => exact h0
  | succ m ih =>
    rw [List.range_succ, List.foldl_append]
    exact hstep m _ (Nat.lt_succ_self m) (ih fun k st hk => hstep k st (Nat.lt_succ_of_lt hk))

theorem foldl_range' {γ : Type} (g : γ → Nat → γ) (s : γ) (a n : Nat) :
    (List.range' a n).foldl g s = (List.range n).foldl (fun s j => g s (j + a)) s := by
  rw [List.range'_eq_map_range, List.foldl_map]; simp only [Nat.add_comm a]

theorem flatMap_range' {γ : Type} (f : Nat → List γ) (a n : Nat) :
    (List.range' a n).flatMap f = (List.range n).flatMap fun j => f (j + a) := by
  rw [List.range'_eq_map_range, List.flatMap_map]; simp only [Nat.add_comm a]

theorem map_range_getD {β γ : Type} (l : List β) (d : β) (f : β → γ) :
    (List.range l.length).map (fun i => f (l.getD i d)) = l.map f := by
  apply List.ext_getElem
  · simp
  · intro i h1 h2
    simp only [List.length_map, List.length_range] at h1
    simp [List.getD_eq_getElem?_getD, List.getElem?_eq_getElem h1]

theorem getLast?_eq_getD {β : Type} (l : List β) (d : β) (h : l ≠ []) :
    l.getLast? = some (l.getD (l.length - 1) d) := by
  rw [List.getLast?_eq_getElem?, List.getD_eq_getElem?_getD,
    List.getElem?_eq_getElem (Nat.sub_one_lt (mt List.length_eq_zero_iff.mp h))]
  rfl

theorem flatMap_length_const {β γ : Type} (l : List β) (f : β → List γ) (k : Nat) (h : ∀ x ∈ l, (f x).length = k) :
    (l.flatMap f).length = l.length * k := by
  induction l with
  | nil => simp
  | cons a t ih =>
    rw [List.flatMap_cons, List.length_append, h a (by simp), ih fun x hx => h x (by simp [hx]), List.length_cons,
      Nat.succ_mul, Nat.add_comm]

/-- A `for` loop with `break` is transcribed as a fold over (state, broke) pairs in which a set flag freezes
the pair; a body that leaves `s` alone until it breaks with `b` is `List.any`. -/
theorem foldl_break_any {σ ι : Type} (f : σ × Bool → ι → σ × Bool) (p : ι → Bool) (s b : σ)
    (hbroke : ∀ x, f (b, true) x = (b, true))
    (hstep : ∀ x, f (s, false) x = if p x then (b, true) else (s, false)) (l : List ι) :
    l.foldl f (s, false) = if l.any p then (b, true) else (s, false) := by
  induction l with
  | nil => rfl
  | cons x l ih =>
    rw [List.foldl_cons, hstep, List.any_cons]
    cases p x
    · simpa using ih
    · exact List.foldlRecOn (motive := (· = (b, true))) l f rfl fun _ h y _ => h ▸ hbroke y

end ScadVerif
