/-
Invariants of the thread-mesh builder `threadMesh` (Model/Thread.lean), a fold appending a ring of four points and
eight triangles per step: its induction principle `threadMesh_inv` and what that yields about the points (about the
faces: Lemmas/ThreadClosed.lean).  `7/10`: the `0.7 * pitch` by which `threaded_cylinder` shortens the thread.
-/
import ScadVerif.Lemmas.RealInst
import ScadVerif.Lemmas.Fold
import ScadVerif.Model.Thread
namespace ScadVerif.ThreadClosed
/-! `threadMesh` writes these two lists inline; like `stepRing` below they must stay textually equal to the model,
which `threadMesh_inv` meets by defeq only: `h0` against the start state's faces, `hstep` against the loop body's
`ring4 …`, the final `rfl` for `endFaces`.  Namespace `ThreadClosed`: Lemmas/ThreadClosed.lean builds `threadFaces`
from them; this file: `threadMesh_inv` concludes with them. -/
def startFaces (left : Bool) : List (List Nat) :=
  if left then [[2, 1, 0], [3, 1, 2]] else [[0, 1, 2], [2, 1, 3]]
def endFaces (left : Bool) (o : Nat) : List (List Nat) :=
  if left then [[5 + o, 7 + o, 6 + o], [4 + o, 5 + o, 6 + o]] else [[6 + o, 7 + o, 5 + o], [6 + o, 5 + o, 4 + o]]
end ScadVerif.ThreadClosed

namespace ScadVerif.ThreadLemmas
open ScadVerif ScadVerif.Thread ScadVerif.ThreadClosed

/-- Rust's float `as usize` over ℝ: toward zero, negatives to 0, i.e. `⌊·⌋₊` (saturation at `usize::MAX` has no
counterpart).  Declared again in Props/C05, C15, C17 (Lemmas/RealInst.lean has none); through any of them
`HasTrunc.trunc` over ℝ is `⌊·⌋₊` by `rfl`. -/
noncomputable instance : HasTrunc ℝ := ⟨fun x => ⌊x⌋₊⟩

section
variable {α : Type} [Add α] [Sub α] [Mul α] [Div α] [Neg α] [OfNat α 0] [OfNat α 1]
  [OfNatCast α] [Trig α] [Cmp α] [HasTrunc α]

/-- the four points `threadMesh`'s loop body appends at step `k` (flanks `q1 q3`); textual copy, see `startFaces` -/
def stepRing (dMin pitch : α) (segments : Nat) (left : Bool) (zStep : α) (k : Nat) (q1 q3 : Pt3 α) : List (Pt3 α) :=
  let a0 : α := lit 360 / cast segments * cast (k + 1)
  let a := if left then a0 * (-1) else a0
  ring4 (dcos a) (dsin a) (zStep * cast k) ⟨dMin / lit 2, 0, lit 3 / lit 4 * pitch⟩ q1 ⟨dMin / lit 2, 0, 0⟩ q3

/-- **Induction over the thread builder.**  The flank points `q1 q3` vary with lead-in and lead-out; all known of
them is `Q`, any property of root and crest points kept by in-range interpolation (`hlerp`) and by the builder's two
initial interpolations (`hlerp0`).  `P` holds of the faces *before* the two end triangles, appended after the fold.
`hlerp0` is apart from `hlerp`: its indices (2 of `nIn`, 1 of `nOut`) need not be in range, as `2 ≤ nIn` takes
`0 ≤ li` and `nOut` may be 0, where the interpolation divides by zero.  `threadMesh_radii` supplies both over ℝ, the
second by `x / 0 = 0`. -/
theorem threadMesh_inv {dMin dMaj pitch length : α} {segments : Nat} {li lo : α} {left : Bool} {m : Mesh α}
    (h : threadMesh dMin dMaj pitch length segments li lo left = some m)
    {n : Nat} (hn : HasTrunc.trunc ((length - lit 7 / lit 10 * pitch) / pitch * cast segments) = n)
    (Q : Pt3 α → Prop) (P : Nat → List (Pt3 α) → List (List Nat) → Prop)
    (hroot : ∀ z, Q ⟨dMin / lit 2, 0, z⟩) (hcrest : ∀ z, Q ⟨dMaj / lit 2, 0, z⟩)
    (hlerp : ∀ a b n i, Q a → Q b → i ≤ n → Q (lerpSteps a b n i))
    (hlerp0 : ∀ a b, Q a → Q b →
      Q (lerpSteps a b (HasTrunc.trunc ((cast segments : α) * li / lit 360 + lit 2)) 2) ∧
      Q (lerpSteps a b (HasTrunc.trunc ((cast segments : α) * lo / lit 360)) 1))
    (h0 : ∀ q1 q3, Q q1 → Q q3 → P 0 [⟨dMin / lit 2, 0, lit 3 / lit 4 * pitch⟩, q1, ⟨dMin / lit 2, 0, 0⟩, q3]
      (startFaces left))
    (hstep : ∀ k ps fs q1 q3, k < n - 1 → Q q1 → Q q3 → P k ps fs →
      P (k + 1) (ps ++ stepRing dMin pitch segments left ((length - lit 7 / lit 10 * pitch) / cast n) k q1 q3)
        (fs ++ stepFaces left (k * 4))) :
    2 ≤ n ∧ ∃ fs, P (n - 1) m.points fs ∧ m.faces = fs ++ endFaces left ((n - 2) * 4) := by
  subst hn
  unfold threadMesh at h
  simp only [] at h  -- ζ-reduces the builder's `let`s, which would block matching `hlerp`, `hstep` below
  obtain ⟨hg, h⟩ := Option.ite_none_left_eq_some.mp h
  cases h
  simp only [Bool.or_eq_true, decide_eq_true_eq, not_or, not_lt] at hg
  obtain ⟨a1, e1⟩ := hlerp0 _ _ (hroot (lit 7 / lit 16 * pitch)) (hcrest (lit 7 / lit 16 * pitch))
  obtain ⟨a3, e3⟩ := hlerp0 _ _ (hroot (lit 5 / lit 16 * pitch)) (hcrest (lit 5 / lit 16 * pitch))
  -- the state also carries the current flank points, which satisfy `Q`
  refine ⟨hg.1, _, (foldl_range_inv
    (fun k (st : St α) => Q st.in1 ∧ Q st.in3 ∧ Q st.out1 ∧ Q st.out3 ∧ P k st.points st.faces)
    _ _ _ ⟨a1, a3, hcrest _, hcrest _, h0 _ _ a1 a3⟩ ?_).2.2.2.2, rfl⟩
  rintro k st hk ⟨i1, i3, o1, o3, hP⟩
  split
  · rename_i h1
    have hi : st.leadInStep + 1 ≤ HasTrunc.trunc ((cast segments : α) * li / lit 360 + lit 2) := by
      simp only [Bool.and_eq_true, decide_eq_true_eq] at h1; omega
    exact ⟨hlerp _ _ _ _ a1 (hcrest _) hi, hlerp _ _ _ _ a3 (hcrest _) hi, o1, o3, hstep k _ _ _ _ hk i1 i3 hP⟩
  · split
    · exact ⟨i1, i3, hlerp _ _ _ _ (hcrest _) e1 (Nat.sub_le _ _), hlerp _ _ _ _ (hcrest _) e3 (Nat.sub_le _ _),
        hstep k _ _ _ _ hk o1 o3 hP⟩
    · exact ⟨i1, i3, o1, o3, hstep k _ _ _ _ hk (hcrest _) (hcrest _) hP⟩

/-- `threadMesh_inv` with nothing asked of the flank points -/
theorem threadMesh_ind {dMin dMaj pitch length : α} {segments : Nat} {li lo : α} {left : Bool} {m : Mesh α}
    (h : threadMesh dMin dMaj pitch length segments li lo left = some m)
    {n : Nat} (hn : HasTrunc.trunc ((length - lit 7 / lit 10 * pitch) / pitch * cast segments) = n)
    (P : Nat → List (Pt3 α) → List (List Nat) → Prop)
    (h0 : ∀ q1 q3, P 0 [⟨dMin / lit 2, 0, lit 3 / lit 4 * pitch⟩, q1, ⟨dMin / lit 2, 0, 0⟩, q3]
      (startFaces left))
    (hstep : ∀ k ps fs q1 q3, k < n - 1 → P k ps fs →
      P (k + 1) (ps ++ stepRing dMin pitch segments left ((length - lit 7 / lit 10 * pitch) / cast n) k q1 q3)
        (fs ++ stepFaces left (k * 4))) :
    2 ≤ n ∧ ∃ fs, P (n - 1) m.points fs ∧ m.faces = fs ++ endFaces left ((n - 2) * 4) :=
  threadMesh_inv h hn (fun _ => True) P (fun _ => trivial) (fun _ => trivial) (fun _ _ _ _ _ _ _ => trivial)
    (fun _ _ _ _ => ⟨trivial, trivial⟩) (fun q1 q3 _ _ => h0 q1 q3) (fun k ps fs q1 q3 hk _ _ => hstep k ps fs q1 q3 hk)
end

/-- a thread mesh of `nSteps` rings: the conclusion of `ThreadClosed.threadMesh_shape`, unpacked by
`C16.threadMesh_structure` -/
structure MeshShape (m : Mesh ℝ) (nSteps : Nat) (dMin : ℝ) : Prop where
  points : m.points.length = 4 * nSteps
  faces : m.faces.length = 8 * nSteps - 4
  tri : ∀ f ∈ m.faces, f.length = 3
  valid : ∀ f ∈ m.faces, ∀ v ∈ f, v < m.points.length
  start0 : m.points[0]?.map (·.x) = some (dMin / 2)
  startZ : m.points[2]? = some ⟨dMin / 2, 0, 0⟩

/-- the root-line vertex (`tp2`) step `j` writes; `+ 0` is `tp2.z` as `ring4` adds it, for the `rfl` in
`threadMesh_points` -/
noncomputable def rootPoint (dMin : ℝ) (segments : Nat) (left : Bool) (zStep : ℝ) (j : Nat) : Pt3 ℝ :=
  let a0 : ℝ := (lit 360 : ℝ) / cast segments * cast (j + 1)
  let a := if left then a0 * (-1) else a0
  ⟨dcos a * (dMin / lit 2), dsin a * (dMin / lit 2), zStep * cast j + 0⟩

theorem threadMesh_points (dMin dMaj pitch length : ℝ) (segments : Nat) (li lo : ℝ) (left : Bool) (m : Mesh ℝ)
    (h : threadMesh dMin dMaj pitch length segments li lo left = some m)
    (n : Nat) (hn : HasTrunc.trunc ((length - lit 7 / lit 10 * pitch) / pitch * (cast segments : ℝ)) = n) :
    2 ≤ n ∧ m.points.length = 4 * n ∧
      m.points[0]? = some ⟨dMin / lit 2, 0, lit 3 / lit 4 * pitch⟩ ∧ m.points[2]? = some ⟨dMin / lit 2, 0, 0⟩ ∧
      ∀ j, j < n - 1 → m.points[4 * (j + 1) + 2]? =
        some (rootPoint dMin segments left ((length - lit 7 / lit 10 * pitch) / (cast n : ℝ)) j) := by
  obtain ⟨hn2, -, ⟨hl, h0, h2, hr⟩, -⟩ := threadMesh_ind h hn
    (fun k ps _ => ps.length = 4 + 4 * k ∧ ps[0]? = some ⟨dMin / lit 2, 0, lit 3 / lit 4 * pitch⟩ ∧
      ps[2]? = some ⟨dMin / lit 2, 0, 0⟩ ∧ ∀ j, j < k → ps[4 * (j + 1) + 2]? =
        some (rootPoint dMin segments left ((length - lit 7 / lit 10 * pitch) / (cast n : ℝ)) j))
    (fun _ _ => ⟨rfl, rfl, rfl, fun j hj => by omega⟩)
    (fun k ps fs q1 q3 _ ⟨hl, h0, h2, hr⟩ => by
      refine ⟨by rw [List.length_append, hl]; show _ + 4 = _; omega,
        by rw [List.getElem?_append_left (by omega)]; exact h0,
        by rw [List.getElem?_append_left (by omega)]; exact h2, fun j hj => ?_⟩
      by_cases hjk : j < k
      · rw [List.getElem?_append_left (by omega)]; exact hr j hjk
      · obtain rfl : j = k := by omega
        rw [List.getElem?_append_right (by omega), show 4 * (j + 1) + 2 - ps.length = 2 by omega]
        rfl)
  exact ⟨hn2, by omega, h0, h2, hr⟩

/-- **the thread is a helix of the right hand**: going up, counter-clockwise when right-handed, clockwise when
left-handed, one step angle per `zStep` of height -/
theorem threadMesh_helix (dMin dMaj pitch length : ℝ) (segments : Nat) (li lo : ℝ) (left : Bool) (m : Mesh ℝ)
    (h : threadMesh dMin dMaj pitch length segments li lo left = some m) :
    ∃ nSteps, 2 ≤ nSteps ∧
      nSteps = HasTrunc.trunc ((length - lit 7 / lit 10 * pitch) / pitch * (cast segments : ℝ)) ∧
      ∀ j, j < nSteps - 1 → m.points[4 * (j + 1) + 2]? =
        some (rootPoint dMin segments left ((length - lit 7 / lit 10 * pitch) / (cast nSteps : ℝ)) j) :=
  have ⟨hn2, _, _, _, hr⟩ := threadMesh_points dMin dMaj pitch length segments li lo left m h _ rfl
  ⟨_, hn2, rfl, hr⟩

theorem convex_between {a b u v t : ℝ} (hu : a ≤ u ∧ u ≤ b) (hv : a ≤ v ∧ v ≤ b) (h0 : 0 ≤ t) (h1 : t ≤ 1) :
    a ≤ u + (v - u) * t ∧ u + (v - u) * t ≤ b := by
  have e : u + (v - u) * t = u * (1 - t) + v * t := by ring
  rw [e]
  constructor
  · linarith [mul_le_mul_of_nonneg_right hu.1 (sub_nonneg.2 h1), mul_le_mul_of_nonneg_right hv.1 h0]
  · linarith [mul_le_mul_of_nonneg_right hu.2 (sub_nonneg.2 h1), mul_le_mul_of_nonneg_right hv.2 h0]

/-- `n = 0` allowed: the lead-out may have no steps, and over ℝ `x / 0 = 0` (in the source the value is not finite
and never read) -/
theorem lerp_x_between (s e : Pt3 ℝ) (n step : Nat) (a b : ℝ) (hs : a ≤ s.x ∧ s.x ≤ b) (he : a ≤ e.x ∧ e.x ≤ b)
    (hstep : n = 0 ∨ step ≤ n) : a ≤ (lerpSteps s e n step).x ∧ (lerpSteps s e n step).x ≤ b := by
  have hx : (lerpSteps s e n step).x = s.x + (e.x - s.x) * ((step : ℝ) / n) := by
    show s.x + (e.x - s.x) / (n : ℝ) * (step : ℝ) = _
    rw [div_mul_eq_mul_div, mul_div_assoc]
  rw [hx]
  refine convex_between hs he (by positivity) ?_
  rcases hstep with rfl | h
  · simp
  · exact div_le_one_of_le₀ (by exact_mod_cast h) (Nat.cast_nonneg n)

theorem lerp_y_zero (s e : Pt3 ℝ) (n step : Nat) (hs : s.y = 0) (he : e.y = 0) : (lerpSteps s e n step).y = 0 := by
  show s.y + (e.y - s.y) / (n : ℝ) * (step : ℝ) = 0
  rw [hs, he, sub_zero, zero_div, zero_mul, add_zero]

theorem sq_between {a b x : ℝ} (ha : 0 ≤ a) (hx : a ≤ x ∧ x ≤ b) : a ^ 2 ≤ x ^ 2 ∧ x ^ 2 ≤ b ^ 2 :=
  ⟨pow_le_pow_left₀ ha hx.1 2, pow_le_pow_left₀ (ha.trans hx.1) hx.2 2⟩

theorem ring4_radii (a b : ℝ) (ha : 0 ≤ a) (c s z : ℝ) (hcs : c * c + s * s = 1) (p0 p1 p2 p3 : Pt3 ℝ)
    (h0 : a ≤ p0.x ∧ p0.x ≤ b) (h1 : a ≤ p1.x ∧ p1.x ≤ b) (h2 : a ≤ p2.x ∧ p2.x ≤ b) (h3 : a ≤ p3.x ∧ p3.x ≤ b) :
    ∀ p ∈ ring4 c s z p0 p1 p2 p3, a ^ 2 ≤ p.x ^ 2 + p.y ^ 2 ∧ p.x ^ 2 + p.y ^ 2 ≤ b ^ 2 := by
  -- a ring point keeps the radius |x| of its profile point
  have on_ring : ∀ {x : ℝ}, a ≤ x ∧ x ≤ b → a ^ 2 ≤ (c * x) ^ 2 + (s * x) ^ 2 ∧ (c * x) ^ 2 + (s * x) ^ 2 ≤ b ^ 2 := by
    intro x hx
    have : (c * x) ^ 2 + (s * x) ^ 2 = x ^ 2 := by linear_combination x ^ 2 * hcs
    rw [this]
    exact sq_between ha hx
  intro p hp
  simp only [ring4, List.mem_cons, List.not_mem_nil, or_false] at hp
  rcases hp with rfl | rfl | rfl | rfl
  exacts [on_ring h0, on_ring h1, on_ring h2, on_ring h3]

/-- **every vertex of the thread mesh lies between the minor and the major radius** -/
theorem threadMesh_radii (dMin dMaj pitch length : ℝ) (segments : Nat) (li lo : ℝ) (left : Bool) (m : Mesh ℝ)
    (h : threadMesh dMin dMaj pitch length segments li lo left = some m)
    (h0 : 0 ≤ dMin) (h1 : dMin ≤ dMaj) (hli : 0 ≤ li) :
    ∀ p ∈ m.points, (dMin / 2) ^ 2 ≤ p.x ^ 2 + p.y ^ 2 ∧ p.x ^ 2 + p.y ^ 2 ≤ (dMaj / 2) ^ 2 := by
  let Q : Pt3 ℝ → Prop := fun q => q.y = 0 ∧ dMin / 2 ≤ q.x ∧ q.x ≤ dMaj / 2
  let R : Pt3 ℝ → Prop := fun p => (dMin / 2) ^ 2 ≤ p.x ^ 2 + p.y ^ 2 ∧ p.x ^ 2 + p.y ^ 2 ≤ (dMaj / 2) ^ 2
  have ha : 0 ≤ dMin / 2 := by linarith
  have hab : dMin / 2 ≤ dMaj / 2 := by linarith
  -- over ℝ `lit 2` unfolds to `2`
  have hroot : ∀ z, Q ⟨dMin / lit 2, 0, z⟩ := fun z => ⟨rfl, le_refl _, hab⟩
  have hcrest : ∀ z, Q ⟨dMaj / lit 2, 0, z⟩ := fun z => ⟨rfl, hab, le_refl _⟩
  have hlerp : ∀ s e n i, Q s → Q e → n = 0 ∨ i ≤ n → Q (lerpSteps s e n i) := fun s e n i hs he hi =>
    ⟨lerp_y_zero _ _ _ _ hs.1 he.1, lerp_x_between _ _ _ _ _ _ hs.2 he.2 hi⟩
  -- the first flank points interpolate at index 2 of `nIn`, in range as the lead-in is ≥ 0
  have hnIn : 2 ≤ HasTrunc.trunc ((cast segments : ℝ) * li / lit 360 + lit 2) := by
    apply Nat.le_floor
    have : 0 ≤ (cast segments : ℝ) * li / lit 360 := by
      simp only [cast_eq_natCast]; positivity
    simp only [cast_eq_natCast] at this ⊢; push_cast; linarith
  have flat : ∀ q, Q q → R q := by
    rintro q ⟨hy, hx⟩
    show _ ≤ q.x ^ 2 + q.y ^ 2 ∧ q.x ^ 2 + q.y ^ 2 ≤ _
    rw [hy, zero_pow two_ne_zero, add_zero]
    exact sq_between ha hx
  obtain ⟨-, -, hP, -⟩ := threadMesh_inv h rfl Q (fun _ ps _ => ∀ p ∈ ps, R p) hroot hcrest
    (fun s e n i hs he hi => hlerp s e n i hs he (Or.inr hi))
    (fun s e hs he => ⟨hlerp s e _ 2 hs he (Or.inr hnIn), hlerp s e _ 1 hs he (by omega)⟩)
    (fun q1 q3 h1 h3 p hp => by
      simp only [List.mem_cons, List.not_mem_nil, or_false] at hp
      rcases hp with rfl | rfl | rfl | rfl
      exacts [flat _ (hroot _), flat _ h1, flat _ (hroot _), flat _ h3])
    (fun k ps fs q1 q3 _ h1 h3 hP p hp => (List.mem_append.mp hp).elim (hP p)
      (ring4_radii _ _ ha _ _ _ (cs_unit _) _ _ _ _ (hroot _).2 h1.2 (hroot _).2 h3.2 p))
  exact hP

/-- one revolution lifts the thread by one pitch, up to the rounding of the step count -/
theorem pitch_per_turn (pitch threadLength : ℝ) (segments : Nat) (hp : 0 < pitch) (hs : 0 < segments)
    (nSteps : Nat) (hn : nSteps = ⌊threadLength / pitch * (segments : ℝ)⌋₊) (hpos : 1 ≤ nSteps) :
    pitch ≤ (segments : ℝ) * (threadLength / (nSteps : ℝ)) ∧
      (segments : ℝ) * (threadLength / (nSteps : ℝ)) * (nSteps : ℝ) < pitch * ((nSteps : ℝ) + 1) := by
  have hN : (0 : ℝ) < nSteps := by exact_mod_cast hpos
  set x : ℝ := threadLength / pitch * (segments : ℝ) with hx
  have hx0 : 0 ≤ x := zero_le_one.trans (Nat.floor_pos.mp (hn ▸ hpos))
  have hxp : (segments : ℝ) * threadLength = pitch * x := by
    rw [hx, ← mul_assoc, mul_div_cancel₀ _ hp.ne', mul_comm]
  rw [mul_div_assoc', le_div_iff₀ hN, div_mul_cancel₀ _ hN.ne', hxp, hn]
  exact ⟨mul_le_mul_of_nonneg_left (Nat.floor_le hx0) hp.le, mul_lt_mul_of_pos_left (Nat.lt_floor_add_one x) hp⟩

end ScadVerif.ThreadLemmas
