/- The walk of `m_table_lookup` down the table (`lookupFrom`): what it returns; it ends because M2 is listed. -/
import ScadVerif.Model.Thread
namespace ScadVerif.ThreadLookup
open ScadVerif ScadVerif.Thread

theorem m2_listed : (findRow 2).isSome = true := by decide +kernel

theorem findRow_key (k : Nat) (r : Gen.ThreadRow) (h : findRow k = some r) : r.key = k := by
  have := List.find?_some h
  simpa using this

theorem two_le_of_none (k : Nat) (h1 : 1 ≤ k) (h : findRow (k + 1) = none) : 2 ≤ k := by
  rcases Nat.lt_or_ge k 2 with hlt | hge
  · have hk : k = 1 := by omega
    subst hk
    have h2 := m2_listed
    rw [h] at h2
    exact absurd h2 (by decide)
  · exact hge

/-- the largest listed size not above `n` -/
theorem lookupFrom_spec (n : Nat) (r : Gen.ThreadRow) (h : lookupFrom n = some r) :
    r.key ≤ n ∧ findRow r.key = some r ∧ ∀ k, r.key < k → k ≤ n → findRow k = none := by
  have hit : ∀ n, findRow n = some r →
      r.key ≤ n ∧ findRow r.key = some r ∧ ∀ k, r.key < k → k ≤ n → findRow k = none := fun n hf => by
    obtain rfl := findRow_key n r hf
    exact ⟨Nat.le_refl _, hf, fun k h1 h2 => absurd h1 (Nat.not_lt.mpr h2)⟩
  induction n with
  | zero => exact hit 0 h
  | succ m ih =>
    rw [lookupFrom] at h
    cases hf : findRow (m + 1) with
    | some r' =>
      rw [hf] at h
      exact hit _ (hf.trans h)
    | none =>
      rw [hf] at h
      obtain ⟨h1, h2, h3⟩ := ih h
      refine ⟨Nat.le_succ_of_le h1, h2, fun k hk1 hk2 => ?_⟩
      rcases Nat.eq_or_lt_of_le hk2 with rfl | hlt
      · exact hf
      · exact h3 k hk1 (Nat.le_of_lt_succ hlt)

theorem lookupFrom_some (n : Nat) (hn : 2 ≤ n) : (lookupFrom n).isSome = true := by
  induction n with
  | zero => omega
  | succ m ih =>
    simp only [lookupFrom]
    cases hf : findRow (m + 1) with
    | some r => rfl
    | none => exact ih (two_le_of_none m (by omega) hf)

end ScadVerif.ThreadLookup
