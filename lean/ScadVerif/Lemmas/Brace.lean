/-
The brace counter of Spec/OpenScad.lean (`braceDepthOK`) on emitted text: every syntactic class the emitter prints is
neutral, every tree balanced.
-/
import ScadVerif.Lemmas.Parser
namespace ScadVerif.BraceLemmas
open ScadVerif ScadVerif.Spec ScadVerif.ParserLemmas

/-- text that leaves the brace counter where it was, outside any string literal -/
def Neutral (s : List Char) : Prop :=
  ∀ rest d, braceDepthOK.go (s ++ rest) d false false = braceDepthOK.go rest d false false

theorem neutral_nil : Neutral [] := fun _ _ => rfl
theorem neutral_append {a b : List Char} (ha : Neutral a) (hb : Neutral b) : Neutral (a ++ b) := by
  intro rest d; rw [List.append_assoc, ha, hb]

def Plain (c : Char) : Prop := c ≠ '"' ∧ c ≠ '{' ∧ c ≠ '}'
instance : DecidablePred Plain := fun c => by unfold Plain; infer_instance

section Go
variable (r : List Char) (d : Nat)
theorem go_plain {c : Char} (h : Plain c) : braceDepthOK.go (c :: r) d false false = braceDepthOK.go r d false false := by
  rw [braceDepthOK.go]; simp only [Bool.false_eq_true, if_false, h.1, h.2.1, h.2.2]
theorem go_quote : braceDepthOK.go ('"' :: r) d false false = braceDepthOK.go r d true false := by
  rw [braceDepthOK.go]; rfl
theorem go_open : braceDepthOK.go ('{' :: r) d false false = braceDepthOK.go r (d + 1) false false := by
  rw [braceDepthOK.go]; rfl
theorem go_close : braceDepthOK.go ('}' :: r) (d + 1) false false = braceDepthOK.go r d false false := by
  rw [braceDepthOK.go]; rfl
theorem go_str_end : braceDepthOK.go ('"' :: r) d true false = braceDepthOK.go r d false false := by
  rw [braceDepthOK.go]; rfl
theorem go_str_esc (x : Char) : braceDepthOK.go ('\\' :: x :: r) d true false = braceDepthOK.go r d true false := by
  rw [braceDepthOK.go]; simp only [if_true, Bool.false_eq_true, if_false]; rw [braceDepthOK.go]; rfl
theorem go_str_char {c : Char} (h1 : c ≠ '\\') (h2 : c ≠ '"') :
    braceDepthOK.go (c :: r) d true false = braceDepthOK.go r d true false := by
  rw [braceDepthOK.go]; simp only [if_true, Bool.false_eq_true, if_false, h1, h2]
end Go

theorem neutral_cons {c : Char} {s : List Char} (hc : Plain c) (hs : Neutral s) : Neutral (c :: s) := by
  intro rest d; rw [List.cons_append, go_plain _ _ hc, hs]

theorem neutral_chars (s : List Char) (h : ∀ c ∈ s, Plain c) : Neutral s := by
  induction s with
  | nil => exact neutral_nil
  | cons c t ih => exact neutral_cons (h c (List.mem_cons_self ..)) (ih fun x hx => h x (List.mem_cons_of_mem _ hx))

theorem inString_escape (s rest : List Char) (d : Nat) :
    braceDepthOK.go (escape s ++ '"' :: rest) d true false = braceDepthOK.go rest d false false := by
  induction s with
  | nil => exact go_str_end rest d
  | cons c t ih =>
    rw [escape, List.flatMap_cons, List.append_assoc]
    rcases escapeChar_cases c with ⟨x, -, e⟩ | ⟨e, h1, h2, -⟩ <;> rw [e]
    · exact (go_str_esc _ d x).trans ih
    · exact (go_str_char _ d h1 h2).trans ih

theorem neutral_str (s : List Char) : Neutral ('"' :: (escape s ++ ['"'])) := by
  intro rest d
  rw [List.cons_append, List.append_assoc, go_quote]
  exact inString_escape s rest d

theorem plain_of_class {p : Char → Bool} (hp : p '"' = false ∧ p '{' = false ∧ p '}' = false) {c : Char}
    (h : p c = true) : Plain c :=
  ⟨ne_of_class h hp.1, ne_of_class h hp.2.1, ne_of_class h hp.2.2⟩

theorem neutral_class {p : Char → Bool} (hp : p '"' = false ∧ p '{' = false ∧ p '}' = false) {s : List Char}
    (h : s.all p = true) : Neutral s :=
  neutral_chars s fun c hc => plain_of_class hp (List.all_eq_true.mp h c hc)

theorem neutral_ident (n : List Char) (h : IsIdent n = true) : Neutral n := by
  cases n with
  | nil => cases h
  | cons a t =>
    simp only [IsIdent, Bool.and_eq_true] at h
    exact neutral_cons (plain_of_class (by decide) h.1) (neutral_class (by decide) h.2)

theorem neutral_numeral (t : List Char) (h : IsNumeral t = true) : Neutral t := by
  have hu : ∀ body, IsUnsigned body → Neutral body := by
    rintro _ ⟨ip, fr, _, hip, hfr, rfl | ⟨_, rfl⟩⟩
    · exact neutral_class (by decide) hip
    · exact neutral_append (neutral_class (by decide) hip) (neutral_cons (by decide) (neutral_class (by decide) hfr))
  rcases isNumeral_cases t h with ⟨body, rfl, hb⟩ | ⟨hb, _⟩
  · exact neutral_cons (by decide) (hu body hb)
  · exact hu t hb

mutual
theorem neutral_value : (v : Value) → ValueOK v → Neutral (flatten v.pieces)
  | .num t, h => by rw [num_text]; exact neutral_numeral t h
  | .bool b, _ => by rw [bool_text]; cases b <;> exact neutral_chars _ (by decide)
  | .str s, _ => by rw [str_text]; exact neutral_str s
  | .undef, _ => neutral_chars _ (by decide)
  | .vec sp items, h => by
    rw [vec_text]
    exact neutral_append (neutral_chars _ (by decide))
      (neutral_append (neutral_values sp items h) (neutral_chars _ (by decide)))
theorem neutral_values : (sp : Bool) → (vs : List Value) → ValuesOK vs → Neutral (flatten (Value.piecesList sp vs))
  | _, [], _ => neutral_nil
  | sp, [v], h => by rw [items_text_one]; exact neutral_value v h.1
  | sp, v :: w :: rest, h => by
    rw [items_text]
    exact neutral_append (neutral_value v h.1) (neutral_append (neutral_chars _ (by decide))
      (neutral_append (neutral_chars _ (by cases sp <;> decide)) (neutral_values sp (w :: rest) h.2)))
end

theorem neutral_arg (a : Arg) (h : ArgOK a) : Neutral (flatten a.pieces) := by
  cases a with
  | named n v =>
    rw [named_text]
    exact neutral_append (neutral_ident n h.1) (neutral_append (neutral_chars _ (by decide)) (neutral_value v h.2))
  | pos v => exact neutral_value v h

theorem neutral_args : (as : List Arg) → (∀ a ∈ as, ArgOK a) → Neutral (flatten (argsPieces as))
  | [], _ => neutral_nil
  | [a], h => neutral_arg a (h a (by simp))
  | a :: b :: tl, h => by
    rw [args_text]
    exact neutral_append (neutral_arg a (h a (by simp)))
      (neutral_append (neutral_chars _ (by decide)) (neutral_args (b :: tl) fun x hx => h x (by simp [hx])))

section Trees
variable {ν : Type} (showNum : ν → List Char)

mutual
/-- **every emitted tree is brace-balanced** -/
theorem neutral_tree : (t : Scad ν) → TreeOK showNum t → Neutral (flatten (t.pieces showNum))
  | .mk op cs, ⟨⟨h, hh, hname, hargs⟩, hprim, hcs⟩ => by
    intro rest d
    -- `rw` with a proof of `Neutral s` rewrites by the equation `Neutral` abbreviates
    cases hp : op.isPrimitive with
    | true =>
      obtain rfl := hprim hp
      rw [prim_text showNum op h hh hp rest, neutral_ident h.name hname, go_plain _ _ (by decide),
        neutral_args h.args hargs]
      exact neutral_chars [')', ';', '\n'] (by decide) rest d
    | false =>
      rw [block_text showNum op cs h hh hp rest, neutral_ident h.name hname, go_plain _ _ (by decide),
        neutral_args h.args hargs, go_plain _ _ (by decide), go_plain _ _ (by decide), go_open,
        go_plain _ _ (by decide), neutral_trees cs hcs, go_close, go_plain _ _ (by decide)]
theorem neutral_trees : (cs : ScadList ν) → TreesOK showNum cs → Neutral (flatten (ScadList.pieces showNum cs))
  | .nil, _ => neutral_nil
  | .cons t ts, ⟨h1, h2⟩ => by
    rw [trees_text]; exact neutral_append (neutral_tree t h1) (neutral_trees ts h2)
end

theorem neutral_emitAll : (ts : List (Scad ν)) → (∀ t ∈ ts, TreeOK showNum t) → Neutral (emitAll showNum ts)
  | [], _ => neutral_nil
  | t :: ts, h => by
    rw [emitAll_cons]
    exact neutral_append (neutral_tree showNum t (h t (by simp))) (neutral_emitAll ts fun x hx => h x (by simp [hx]))

end Trees

end ScadVerif.BraceLemmas
