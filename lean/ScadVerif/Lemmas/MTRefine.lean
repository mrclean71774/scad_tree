/-
Refinement of the in-place MersenneTwister model (Model/Rng.lean) to the reference sequence (Spec/MT19937.lean):
`outputs_good`.  The sliding window is characterised once (`window_getD`); nothing after unfolds it.  One step lemma,
`Inv.step`, serves the three loops of `regen`, which differ only in which of their two reads wrap round the buffer.
The literals 624, 397, 227, 396, 623 are `n`, `m`, `n - m`, `m - 1`, `n - 1` (`consts_match`), unifying by evaluation.
-/
import ScadVerif.Lemmas.Fold
import ScadVerif.Model.Rng
import ScadVerif.Spec.MT19937
namespace ScadVerif.MTRefine
open ScadVerif ScadVerif.Rng ScadVerif.Spec.MT

theorem consts_match :
    Gen.mtN = n ∧ Gen.mtM = m ∧ Gen.mtUpper = upperMask ∧ Gen.mtLower = lowerMask ∧
    Gen.mtMatrixA = matrixA ∧ Gen.mtSeedMul = seedMul ∧ Gen.mtMaskB = 0x9d2c5680 ∧ Gen.mtMaskC = 0xefc60000 ∧
    Gen.mtShiftU = 11 ∧ Gen.mtShiftS = 7 ∧ Gen.mtShiftT = 15 ∧ Gen.mtShiftL = 18 := by decide

theorem twist_eq (u l : UInt32) : Rng.twist u l = Spec.MT.twist u l := rfl
theorem temper_eq (y : UInt32) : Rng.temper y = Spec.MT.temper y := rfl

theorem getD_append_left' (l₁ l₂ : List UInt32) (i : Nat) (h : i < l₁.length) :
    (l₁ ++ l₂).getD i 0 = l₁.getD i 0 := by
  simp [List.getD_eq_getElem?_getD, List.getElem?_append_left h]
theorem getD_append_right' (l₁ l₂ : List UInt32) (i : Nat) (h : l₁.length ≤ i) :
    (l₁ ++ l₂).getD i 0 = l₂.getD (i - l₁.length) 0 := by
  simp [List.getD_eq_getElem?_getD, List.getElem?_append_right h]

/-- Later proofs go through this statement, never the 623-step fold, which the unifier must not be made to evaluate. -/
theorem seedWindow_spec (seed : UInt32) :
    (seedWindow seed).length = n ∧ (seedWindow seed).getD 0 0 = seed ∧
      ∀ j, j < 623 → (seedWindow seed).getD (j + 1) 0 = seedMul * (seedWindow seed).getD j 0 := by
  refine foldl_range_inv
    (fun k (w : List UInt32) =>
      w.length = k + 1 ∧ w.getD 0 0 = seed ∧ ∀ j, j < k → w.getD (j + 1) 0 = seedMul * w.getD j 0)
    _ _ (n - 1) ⟨rfl, rfl, fun j hj => absurd hj (Nat.not_lt_zero j)⟩ ?_
  rintro k w - ⟨hl, h0, hj⟩
  refine ⟨by simp [hl], by rw [getD_append_left' _ _ _ (by omega)]; exact h0, fun j hjk => ?_⟩
  by_cases hjlt : j < k
  · rw [getD_append_left' _ _ _ (by omega), getD_append_left' _ _ _ (by omega)]; exact hj j hjlt
  · obtain rfl : j = k := by omega
    rw [getD_append_right' _ _ _ (by omega), getD_append_left' _ _ _ (by omega), List.getLastD_eq_getLast?,
      List.getLast?_eq_getElem?, List.getD_eq_getElem?_getD]
    simp [hl]

theorem step_length (w : List UInt32) (h : w.length = n) : (step w).length = n := by
  simp [step, h, n]
theorem window_length (seed : UInt32) : ∀ k, (window seed k).length = n
  | 0 => (seedWindow_spec seed).1
  | k + 1 => step_length _ (window_length seed k)

theorem step_getD_lt (w : List UInt32) (h : w.length = n) (i : Nat) (hi : i < n - 1) :
    (step w).getD i 0 = w.getD (i + 1) 0 := by
  rw [step, getD_append_left' _ _ _ (by rw [List.length_tail, h]; exact hi)]
  simp [List.getD_eq_getElem?_getD]
theorem step_getD_last (w : List UInt32) (h : w.length = n) :
    (step w).getD (n - 1) 0 = w.getD m 0 ^^^ Spec.MT.twist (w.getD 0 0) (w.getD 1 0) := by
  rw [step, getD_append_right' _ _ _ (by rw [List.length_tail, h]; exact Nat.le_refl _)]
  simp [h]

theorem window_getD (seed : UInt32) (k i : Nat) (hi : i < n) :
    (window seed k).getD i 0 = x seed (k + i) := by
  induction i generalizing k with
  | zero => simp [x, List.getD_eq_getElem?_getD, List.headD_eq_head?_getD, List.head?_eq_getElem?]
  | succ i ih =>
    rw [← step_getD_lt _ (window_length seed k) i (by omega), show k + (i + 1) = k + 1 + i by omega]
    exact ih (k + 1) (by omega)

theorem x_rec (seed : UInt32) (k : Nat) :
    x seed (k + 624) = x seed (k + 397) ^^^ Spec.MT.twist (x seed k) (x seed (k + 1)) := by
  have h : (window seed (k + 1)).getD (n - 1) 0 = _ := step_getD_last (window seed k) (window_length seed k)
  rwa [window_getD seed k m (by decide), window_getD seed k 0 (by decide), window_getD seed k 1 (by decide),
    window_getD seed (k + 1) (n - 1) (by decide), Nat.add_right_comm] at h
theorem x_zero (seed : UInt32) : x seed 0 = seed := by
  rw [← window_getD seed 0 0 (by decide)]; exact (seedWindow_spec seed).2.1
theorem x_seed_succ (seed : UInt32) (j : Nat) (h : j < 623) : x seed (j + 1) = seedMul * x seed j := by
  have h1 := window_getD seed 0 (j + 1) (show j + 1 < 624 by omega)
  have h2 := window_getD seed 0 j (show j < 624 by omega)
  rw [Nat.zero_add] at h1 h2
  rw [← h1, ← h2]
  exact (seedWindow_spec seed).2.2 j h

theorem rd_wr (b : Array UInt32) (k i : Nat) (v : UInt32) (hk : k < b.size) :
    rd (wr b k v) i = if i = k then v else rd b i := by
  unfold rd wr
  by_cases h : i = k
  · subst h; simp [Array.getD_eq_getD_getElem?, hk]
  · simp [Array.getD_eq_getD_getElem?, h, Ne.symm h]
theorem size_wr (b : Array UInt32) (k : Nat) (v : UInt32) : (wr b k v).size = b.size := by simp [wr]

/-- part-way through a regeneration begun with `x seed base` in cell 0 (`base`: a stream index, not a block number);
cells below `K` are already 624 further on -/
def Inv (seed : UInt32) (b : Array UInt32) (base K : Nat) : Prop :=
  b.size = 624 ∧ ∀ i, i < 624 → rd b i = if i < K then x seed (base + 624 + i) else x seed (base + i)

/-- past the end of the buffer the index wraps into the cells already rewritten -/
theorem Inv.read {seed : UInt32} {b : Array UInt32} {base K : Nat} (h : Inv seed b base K) (hK : K < 624)
    (d : Nat) (hd : d < 624) {i : Nat} (hi : i = (K + d) % 624) : rd b i = x seed (base + K + d) := by
  rw [h.2 i (by omega)]
  split <;> exact congrArg (x seed) (by omega)

theorem Inv.step {seed : UInt32} {b : Array UInt32} {base K : Nat} (h : Inv seed b base K) (hK : K < 624)
    {src nxt : Nat} (hs : src = (K + 397) % 624) (hn : nxt = (K + 1) % 624) :
    Inv seed (wr b K (rd b src ^^^ Rng.twist (rd b K) (rd b nxt))) base (K + 1) := by
  refine ⟨(size_wr ..).trans h.1, fun i hi => ?_⟩
  rw [rd_wr _ _ _ _ (by rw [h.1]; exact hK)]
  by_cases hik : i = K
  · rw [if_pos hik, if_pos (by omega), h.read hK 397 (by omega) hs, h.read hK 1 (by omega) hn, h.2 K hK,
      if_neg (Nat.lt_irrefl K), twist_eq, ← x_rec, hik]
    exact congrArg (x seed) (by omega)
  · rw [if_neg hik, h.2 i hi]
    by_cases hlt : i < K
    · rw [if_pos hlt, if_pos (by omega)]
    · rw [if_neg hlt, if_neg (by omega)]

theorem regen_inv (seed : UInt32) (b : Array UInt32) (base : Nat) (h : Inv seed b base 0) :
    Inv seed (regen b) base 624 := by
  have h1 := foldl_range_inv (fun k b => Inv seed b base k) _ b 227 h
    fun k b hk hb => hb.step (src := k + 397) (nxt := k + 1) (by omega) (by omega) (by omega)
  have h2 := foldl_range_inv (fun j b => Inv seed b base (j + 227)) _ _ 396 h1
    fun j b hj hb => Nat.add_right_comm j 227 1 ▸
      hb.step (src := j + 227 + 397 - 624) (nxt := j + 227 + 1) (by omega) (by omega) (by omega)
  exact h2.step (src := 396) (nxt := 0) (by omega) rfl rfl

theorem inv_shift {seed : UInt32} {b : Array UInt32} {base : Nat} (h : Inv seed b base 624) :
    Inv seed b (base + 624) 0 :=
  ⟨h.1, fun i hi => by rw [h.2 i hi, if_pos hi, if_neg (Nat.not_lt_zero i)]⟩

/-- the body of `withSeed`'s fold, named so that `withSeed_eq` (by `rfl`) and `seed_inv` state one fold term:
`foldl_range_inv` meets it syntactically and nothing evaluates the 623 steps (cf. `seedWindow_spec`) -/
def seedBody (b : Array UInt32) (j : Nat) : Array UInt32 := wr b (j + 1) (Gen.mtSeedMul * rd b j)

theorem withSeed_eq (seed : UInt32) :
    withSeed seed = ⟨(List.range 623).foldl seedBody ((Array.replicate 624 0).setIfInBounds 0 seed), 624⟩ := rfl

theorem seed_inv (seed : UInt32) :
    Inv seed ((List.range 623).foldl seedBody ((Array.replicate 624 0).setIfInBounds 0 seed)) 0 0 := by
  have h := foldl_range_inv (fun J b => b.size = 624 ∧ ∀ i, i ≤ J → rd b i = x seed i) seedBody
    ((Array.replicate 624 0).setIfInBounds 0 seed) 623
    ⟨by simp, fun i hi => by
      obtain rfl : i = 0 := Nat.le_zero.mp hi
      simp [rd, x_zero, Array.getD_eq_getD_getElem?]⟩
    fun J b hJ ⟨hs, hc⟩ => ⟨(size_wr ..).trans hs, fun i hi => by
      rw [seedBody, rd_wr _ _ _ _ (by omega)]
      by_cases h : i = J + 1
      · rw [if_pos h, hc J (Nat.le_refl J), h, x_seed_succ seed J hJ]; rfl
      · rw [if_neg h]; exact hc i (by omega)⟩
  exact ⟨h.1, fun i hi => by rw [if_neg (Nat.not_lt_zero i), Nat.zero_add]; exact h.2 i (by omega)⟩

/-- the generator is about to output x_pos (tempered) -/
def Good (seed : UInt32) (mt : MT) (pos : Nat) : Prop :=
  ∃ base, base + mt.index = pos ∧ mt.index ≤ 624 ∧ Inv seed mt.buf base 0

theorem Good.mk {seed : UInt32} {b : Array UInt32} {base i : Nat} (h : Inv seed b base 0) (hi : i ≤ 624) :
    Good seed ⟨b, i⟩ (base + i) :=
  ⟨base, rfl, hi, h⟩

theorem emit_good {seed : UInt32} {b : Array UInt32} {base i pos : Nat} (h : Inv seed b base 0) (hi : i < 624)
    (hp : base + i = pos) :
    Rng.temper (rd b i) = Spec.MT.temper (x seed pos) ∧ Good seed ⟨b, i + 1⟩ (pos + 1) :=
  ⟨by rw [temper_eq, h.2 i hi, if_neg (Nat.not_lt_zero i), hp], hp ▸ Good.mk h hi⟩

theorem next_good (seed : UInt32) (mt : MT) (pos : Nat) (h : Good seed mt pos) :
    (next mt).1 = Spec.MT.temper (x seed pos) ∧ Good seed (next mt).2 (pos + 1) := by
  obtain ⟨base, hp, hi, hinv⟩ := h
  unfold next
  by_cases hge : mt.index ≥ Gen.mtN
  · have h624 : mt.index = 624 := Nat.le_antisymm hi hge
    rw [if_pos hge]
    exact emit_good (inv_shift (regen_inv seed _ base hinv)) (Nat.zero_lt_succ 623) (by omega)
  · rw [if_neg hge]
    exact emit_good hinv (Nat.lt_of_not_le hge) hp

theorem withSeed_good (seed : UInt32) : Good seed (withSeed seed) 624 := by
  rw [withSeed_eq]
  exact Good.mk (seed_inv seed) (Nat.le_refl 624)

theorem outputs_good (seed : UInt32) (count : Nat) :
    ∀ (mt : MT) (pos : Nat), Good seed mt pos →
      outputs count mt = (List.range count).map fun t => Spec.MT.temper (x seed (pos + t)) := by
  induction count with
  | zero => intro _ _ _; rfl
  | succ c ih =>
    intro mt pos h
    obtain ⟨h1, h2⟩ := next_good seed mt pos h
    rw [outputs, List.range_succ_eq_map, List.map_cons, List.map_map]
    show (next mt).1 :: outputs c (next mt).2 = _
    -- the tail from `pos + 1` is the list from `pos` with the index shifted by one
    rw [h1, ih _ _ h2]
    simp only [Nat.add_right_comm pos 1]
    rfl

end ScadVerif.MTRefine
