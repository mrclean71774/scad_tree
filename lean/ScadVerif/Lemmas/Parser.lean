/-
The parser of Spec/OpenScad.lean reads back what the emitter prints: a rewrite rule per production, chosen by the first
character (`Starts`); what the printer writes (`*_text`, `*_starts`); the round trip, by induction on fuel.
C01/C02/C13 are stated with `toStmt`, `toPArg`, `ScadOp.strings`, `NoNul` from here and proved through `TreeOK`,
`header_ok`.  They write `t.emit showNum`, this file and Lemmas/Brace.lean `flatten (t.pieces showNum)`: equal by
definition of `Scad.emit`, by no lemma, so the two meet by `exact`/`show`/`unfold Scad.emit`, not by `rw`.
-/
import ScadVerif.Spec.OpenScadBind
namespace ScadVerif.ParserLemmas
open ScadVerif ScadVerif.Spec

def Starts (p : Char → Bool) : List Char → Prop
  | [] => False
  | c :: _ => p c = true

theorem Starts.append {p : Char → Bool} : ∀ {a : List Char} (b : List Char), Starts p a → Starts p (a ++ b)
  | _ :: _, _, h => h
theorem Starts.imp {p q : Char → Bool} (hpq : ∀ c, p c = true → q c = true) :
    ∀ {cs : List Char}, Starts p cs → Starts q cs
  | _ :: _, h => hpq _ h
theorem Starts.cons {p : Char → Bool} : ∀ {cs : List Char}, Starts p cs → ∃ c r, cs = c :: r ∧ p c = true
  | c :: r, h => ⟨c, r, rfl, h⟩

theorem ne_of_class {p : Char → Bool} {c x : Char} (hc : p c = true) (hx : p x = false) : c ≠ x :=
  fun e => by rw [e, hx] at hc; cases hc

theorem skipWs_cons_of_not_ws (c : Char) (r : List Char) (h : isWs c = false) : skipWs (c :: r) = c :: r := by
  simp [skipWs, List.dropWhile, h]
theorem skipWs_of_ws (c : Char) (cs : List Char) (h : isWs c = true) : skipWs (c :: cs) = skipWs cs := by
  simp [skipWs, List.dropWhile, h]
theorem skipWs_idem (cs : List Char) : skipWs (skipWs cs) = skipWs cs := by
  induction cs with
  | nil => rfl
  | cons c t ih =>
    cases h : isWs c with
    | true => rwa [skipWs_of_ws c t h]
    | false => rw [skipWs_cons_of_not_ws c t h, skipWs_cons_of_not_ws c t h]
theorem skipWs_all_ws (w : List Char) (h : w.all isWs = true) (cs : List Char) :
    skipWs (w ++ cs) = skipWs cs := by
  exact List.dropWhile_append_of_pos (List.all_eq_true.mp h)

def closers : List Char := [' ', '\n', '\t', '\r', ')', ']', '}']
/-- input starting with an opener is left alone by `skipWs` and not taken for a list's end by the look-ahead of
`pValue`, `pArgs`, `pBlock` -/
def opener (c : Char) : Bool := !closers.contains c

theorem opener_of {p : Char → Bool} (hp : ∀ x ∈ closers, p x = false) {c : Char} (hc : p c = true) :
    opener c = true := by
  by_cases h : c ∈ closers
  · rw [hp c h] at hc; cases hc
  · simpa [opener] using h
theorem opener_ne {c x : Char} (h : opener c = true) (hx : x ∈ closers) : c ≠ x := by
  rintro rfl; simp [opener, hx] at h
theorem opener_not_ws {c : Char} (h : opener c = true) : isWs c = false := by
  cases hw : isWs c with
  | false => rfl
  | true =>
    simp only [isWs, Bool.or_eq_true, decide_eq_true_eq] at hw
    rcases hw with ((rfl | rfl) | rfl) | rfl <;> cases h
theorem skipWs_opener : ∀ {cs : List Char}, Starts opener cs → skipWs cs = cs
  | c :: r, h => skipWs_cons_of_not_ws c r (opener_not_ws h)
theorem skipWs_of_class {p : Char → Bool} (hp : ∀ x ∈ closers, p x = false) {c : Char} (hc : p c = true)
    (r : List Char) : skipWs (c :: r) = c :: r :=
  skipWs_cons_of_not_ws c r (opener_not_ws (opener_of hp hc))

/-- where a printed value ends; the emitter follows it by `,` `)` `]` `;`.  Not `.`: `pUnsigned` would read on into a
fraction.  Not `=` or white space: after a leading word `pArg` skips white space and looks for `=` (`pArg_pos`).
`Starts stop rest` forces `rest ≠ []`: `pValue_pieces`, `pArg_pieces` are silent at end of input. -/
def stop (c : Char) : Bool := !isIdChar c && c != '.' && c != '=' && !isWs c

theorem stop_iff {c : Char} : stop c = true ↔
    isDigit c = false ∧ isIdChar c = false ∧ c ≠ '.' ∧ c ≠ '=' ∧ isWs c = false := by
  cases hd : isDigit c <;> simp [stop, isIdChar, hd, and_assoc]

theorem takeWhile_append_stop {p : Char → Bool} (a : List Char) (c : Char) (r : List Char)
    (ha : a.all p = true) (hc : p c = false) : (a ++ c :: r).takeWhile p = a := by
  rw [List.takeWhile_append_of_pos (by simpa using ha), List.takeWhile_cons_of_neg (by simp [hc]), List.append_nil]
theorem dropWhile_append_stop {p : Char → Bool} (a : List Char) (c : Char) (r : List Char)
    (ha : a.all p = true) (hc : p c = false) : (a ++ c :: r).dropWhile p = c :: r := by
  rw [List.dropWhile_append_of_pos (by simpa using ha), List.dropWhile_cons_of_neg (by simp [hc])]

def IsIdent (s : List Char) : Bool :=
  match s with
  | [] => false
  | c :: r => isIdStart c && r.all isIdChar

theorem ident_starts {n : List Char} (h : IsIdent n = true) : Starts isIdStart n := by
  cases n with
  | nil => cases h
  | cons c r => exact (Bool.and_eq_true _ _ ▸ h).1

theorem ident_opens {n : List Char} (h : IsIdent n = true) : Starts opener n :=
  (ident_starts h).imp fun _ => opener_of (by decide)

theorem not_digit_of_idStart {c : Char} (h : isIdStart c = true) : isDigit c = false := by
  cases hd : isDigit c with
  | false => rfl
  | true =>
    simp only [isDigit, Bool.and_eq_true, decide_eq_true_eq] at hd
    simp only [isIdStart, isLetter, Bool.or_eq_true, Bool.and_eq_true, decide_eq_true_eq] at h
    rcases h with ((⟨h1, _⟩ | ⟨h1, _⟩) | rfl) | rfl
    · exact absurd (Char.le_trans h1 hd.2) (by decide)
    · exact absurd (Char.le_trans h1 hd.2) (by decide)
    · exact absurd hd.2 (by decide)
    · exact absurd hd.1 (by decide)

theorem pIdent_ident (name : List Char) (c : Char) (rest : List Char)
    (hn : IsIdent name = true) (hc : isIdChar c = false) :
    pIdent (name ++ c :: rest) = some (name, c :: rest) := by
  cases name with
  | nil => cases hn
  | cons a t =>
    simp only [IsIdent, Bool.and_eq_true] at hn
    simp only [pIdent, List.cons_append, skipWs_of_class (by decide) hn.1, hn.1, if_true]
    rw [takeWhile_append_stop t c rest hn.2 hc, dropWhile_append_stop t c rest hn.2 hc]

def IsUnsigned (body : List Char) : Prop :=
  ∃ ip fr : List Char, ip ≠ [] ∧ ip.all isDigit = true ∧ fr.all isDigit = true ∧
    (body = ip ∨ (fr ≠ [] ∧ body = ip ++ '.' :: fr))

theorem isFraction_dot {r : List Char} (h : isFraction r = true) :
    ∃ fr, r = '.' :: fr ∧ fr ≠ [] ∧ fr.all isDigit = true := by
  unfold isFraction at h
  split at h
  · rename_i fr
    simp only [Bool.and_eq_true, Bool.not_eq_true', List.isEmpty_eq_false_iff] at h
    exact ⟨fr, rfl, h⟩
  · cases h

theorem isUnsigned_numBody {cs : List Char} (h : IsNumeral cs = true) : IsUnsigned (numBody cs) := by
  unfold IsNumeral at h
  generalize numBody cs = body at h
  simp only [Bool.and_eq_true, Bool.not_eq_true', List.isEmpty_eq_false_iff, Bool.or_eq_true, List.isEmpty_iff] at h
  have hsplit : body = body.takeWhile isDigit ++ body.dropWhile isDigit := List.takeWhile_append_dropWhile.symm
  rcases h.2 with he | hf
  · rw [he, List.append_nil] at hsplit
    exact ⟨_, [], h.1, List.all_takeWhile, rfl, Or.inl hsplit⟩
  · obtain ⟨fr, he, hne, hall⟩ := isFraction_dot hf
    rw [he] at hsplit
    exact ⟨_, fr, h.1, List.all_takeWhile, hall, Or.inr ⟨hne, hsplit⟩⟩

theorem numBody_neg (r : List Char) : numBody ('-' :: r) = r := rfl
theorem numBody_of_ne (c : Char) (r : List Char) (h : c ≠ '-') : numBody (c :: r) = c :: r := by
  rw [numBody]; exact fun _ e => h (List.cons.inj e).1

theorem isNumeral_cases (cs : List Char) (h : IsNumeral cs = true) :
    (∃ body, cs = '-' :: body ∧ IsUnsigned body) ∨ (IsUnsigned cs ∧ cs.head? ≠ some '-') := by
  have hb := isUnsigned_numBody h
  cases cs with
  | nil => cases h
  | cons c r =>
    by_cases hc : c = '-'
    · subst hc
      exact Or.inl ⟨r, rfl, hb⟩
    · rw [numBody_of_ne c r hc] at hb
      exact Or.inr ⟨hb, by simp [hc]⟩

theorem pUnsigned_body (body : List Char) (c : Char) (rest : List Char) (h : IsUnsigned body)
    (hd : isDigit c = false) (hdot : c ≠ '.') :
    pUnsigned (body ++ c :: rest) = some (body, c :: rest) := by
  obtain ⟨ip, fr, hne, hip, hfr, hb⟩ := h
  have hipe : ip.isEmpty = false := List.isEmpty_eq_false_iff.mpr hne
  rcases hb with hb | ⟨hfrne, hb⟩ <;> subst hb
  -- here and below: a `match` arm overlapping an earlier pattern has "not of that form" as side condition of its
  -- equation; `List.cons.injEq … implies_true` discharge it
  · simp only [pUnsigned, takeWhile_append_stop _ c rest hip hd, dropWhile_append_stop _ c rest hip hd, hipe,
      Bool.false_eq_true, if_false, List.cons.injEq, hdot, false_and, imp_self, implies_true]
  · rw [List.append_assoc, List.cons_append]
    simp only [pUnsigned, takeWhile_append_stop ip '.' _ hip rfl, dropWhile_append_stop ip '.' _ hip rfl, hipe,
      takeWhile_append_stop fr c rest hfr hd, dropWhile_append_stop fr c rest hfr hd,
      List.isEmpty_eq_false_iff.mpr hfrne, Bool.false_eq_true, if_false]

def numStart (c : Char) : Bool := isDigit c || c = '-'

theorem unsigned_starts {body : List Char} (h : IsUnsigned body) : Starts isDigit body := by
  obtain ⟨ip, fr, hne, hip, _, hb⟩ := h
  cases ip with
  | nil => exact absurd rfl hne
  | cons d t =>
    simp only [List.all_cons, Bool.and_eq_true] at hip
    rcases hb with rfl | ⟨_, rfl⟩ <;> exact hip.1

theorem numeral_starts {t : List Char} (h : IsNumeral t = true) : Starts numStart t := by
  rcases isNumeral_cases t h with ⟨body, rfl, _⟩ | ⟨hb, _⟩
  · rfl
  · exact (unsigned_starts hb).imp fun c hc => by simp [numStart, hc]

theorem pNumber_numeral (cs : List Char) (rest : List Char) (h : IsNumeral cs = true) (hr : Starts stop rest) :
    pNumber (cs ++ rest) = some (cs, rest) := by
  obtain ⟨c, r, rfl, hc⟩ := hr.cons
  obtain ⟨hd, -, hdot, -, -⟩ := stop_iff.mp hc
  rcases isNumeral_cases cs h with ⟨body, rfl, hb⟩ | ⟨hb, -⟩
  · simp only [pNumber, List.cons_append, skipWs_cons_of_not_ws '-' _ (by decide), pUnsigned_body body c r hb hd hdot,
      Option.map_some]
  · obtain ⟨d, t, rfl, hdig⟩ := (unsigned_starts hb).cons
    have hneg : d ≠ '-' := ne_of_class hdig (by decide)
    rw [pNumber, List.cons_append, skipWs_of_class (by decide) hdig]
    simp only [List.cons.injEq, hneg, false_and, imp_self, implies_true]
    exact pUnsigned_body (d :: t) c r hb hd hdot

def NoNul (s : List Char) : Prop := ∀ c ∈ s, c ≠ '\x00'

theorem pStrBody_plain {c : Char} (h1 : c ≠ '\\') (h2 : c ≠ '"') (h3 : c ≠ '\n') (h0 : c ≠ '\x00')
    (tail : List Char) : pStrBody (c :: tail) = (pStrBody tail).map fun (s, r) => (c :: s, r) := by
  rw [pStrBody]
  · rw [if_neg h0]
  · exact h2
  -- one side condition per escape arm `\n \t \r \\ \" \x \u \U` of `pStrBody`
  iterate 8 · intros; exact h1 ‹c = '\\'›
  · exact h1
  · exact h3

theorem escapeChar_cases (c : Char) :
    (∃ x, (c, x) ∈ [('\\', '\\'), ('"', '"'), ('\n', 'n'), ('\t', 't'), ('\r', 'r')] ∧ escapeChar c = ['\\', x]) ∨
      (escapeChar c = [c] ∧ c ≠ '\\' ∧ c ≠ '"' ∧ c ≠ '\n') := by
  unfold escapeChar
  by_cases h1 : c = '\\'
  · subst h1; exact Or.inl ⟨'\\', by decide, rfl⟩
  by_cases h2 : c = '"'
  · subst h2; exact Or.inl ⟨'"', by decide, rfl⟩
  by_cases h3 : c = '\n'
  · subst h3; exact Or.inl ⟨'n', by decide, rfl⟩
  by_cases h4 : c = '\t'
  · subst h4; exact Or.inl ⟨'t', by decide, rfl⟩
  by_cases h5 : c = '\r'
  · subst h5; exact Or.inl ⟨'r', by decide, rfl⟩
  · exact Or.inr ⟨by rw [if_neg h1, if_neg h2, if_neg h3, if_neg h4, if_neg h5], h1, h2, h3⟩

theorem pStrBody_escapeChar (c : Char) (hc : c ≠ '\x00') (tail : List Char) :
    pStrBody (escapeChar c ++ tail) = (pStrBody tail).map fun (s, r) => (c :: s, r) := by
  rcases escapeChar_cases c with ⟨x, hx, e⟩ | ⟨e, h1, h2, h3⟩ <;> rw [e]
  · simp only [List.mem_cons, Prod.mk.injEq, List.not_mem_nil, or_false] at hx
    rcases hx with ⟨rfl, rfl⟩ | ⟨rfl, rfl⟩ | ⟨rfl, rfl⟩ | ⟨rfl, rfl⟩ | ⟨rfl, rfl⟩ <;> rfl
  · exact pStrBody_plain h1 h2 h3 hc tail

theorem pStrBody_escape (s rest : List Char) (h : NoNul s) :
    pStrBody (escape s ++ '"' :: rest) = some (s, rest) := by
  induction s with
  | nil => simp [escape, pStrBody]
  | cons c s ih =>
    have hs : NoNul s := fun d hd => h d (List.mem_cons_of_mem _ hd)
    have hc : c ≠ '\x00' := h c (List.mem_cons_self ..)
    have e : escape (c :: s) ++ '"' :: rest = escapeChar c ++ (escape s ++ '"' :: rest) := by
      simp [escape]
    rw [e, pStrBody_escapeChar c hc, ih hs]; rfl

theorem pIdent_skipWs (cs : List Char) : pIdent (skipWs cs) = pIdent cs := by
  simp only [pIdent, skipWs_idem]
theorem pValue_skipWs (fuel : Nat) (cs : List Char) : pValue fuel (skipWs cs) = pValue fuel cs := by
  cases fuel with
  | zero => simp [pValue]
  | succ f => simp only [pValue, skipWs_idem]
theorem pItems_skipWs (fuel : Nat) (cs : List Char) : pItems fuel (skipWs cs) = pItems fuel cs := by
  cases fuel with
  | zero => simp [pItems]
  | succ f => simp only [pItems, pValue_skipWs]
theorem pArg_skipWs (fuel : Nat) (cs : List Char) : pArg fuel (skipWs cs) = pArg fuel cs := by
  simp only [pArg, pIdent_skipWs, pValue_skipWs]
theorem pArgs_skipWs (n fuel : Nat) (cs : List Char) : pArgs n fuel (skipWs cs) = pArgs n fuel cs := by
  cases n with
  | zero => simp [pArgs]
  | succ k => simp only [pArgs, skipWs_idem, pArg_skipWs]
theorem pStmt_skipWs (fuel : Nat) (cs : List Char) : pStmt fuel (skipWs cs) = pStmt fuel cs := by
  cases fuel with
  | zero => simp [pStmt]
  | succ f => simp only [pStmt, pIdent_skipWs]
theorem pBlock_skipWs (fuel : Nat) (cs : List Char) : pBlock fuel (skipWs cs) = pBlock fuel cs := by
  cases fuel with
  | zero => simp [pBlock]
  | succ f => simp only [pBlock, skipWs_idem, pStmt_skipWs]

theorem ws_append {α : Type} {P : List Char → α} (hP : ∀ cs, P (skipWs cs) = P cs) {w : List Char}
    (hw : w.all isWs = true) (cs : List Char) : P (w ++ cs) = P cs := by
  rw [← hP, skipWs_all_ws w hw, hP]
theorem ws_cons {α : Type} {P : List Char → α} (hP : ∀ cs, P (skipWs cs) = P cs) {c : Char}
    (hc : isWs c = true) (cs : List Char) : P (c :: cs) = P cs :=
  ws_append hP (w := [c]) (by rw [List.all_cons, hc]; rfl) cs

theorem pValue_str (f : Nat) (cs : List Char) :
    pValue (f + 1) ('"' :: cs) = (pStrBody cs).map fun (s, r) => (Val.str s, r) := by
  rw [pValue, skipWs_cons_of_not_ws _ _ (by decide)]; rfl

theorem pValue_vec_nil (f : Nat) (r : List Char) : pValue (f + 1) ('[' :: ']' :: r) = some (.vec [], r) := by
  rw [pValue, skipWs_cons_of_not_ws _ _ (by decide)]
  simp only [skipWs_cons_of_not_ws ']' r (by decide)]

theorem pValue_vec_cons (f : Nat) {cs : List Char} (h : Starts opener cs) :
    pValue (f + 1) ('[' :: cs) = (pItems f cs).map fun (vs, r) => (Val.vec vs, r) := by
  rw [pValue, skipWs_cons_of_not_ws _ _ (by decide)]
  simp only [skipWs_opener h]
  obtain ⟨c, r, rfl, hc⟩ := h.cons
  simp only [List.cons.injEq, opener_ne hc (x := ']') (by decide), false_and, imp_self, implies_true]

theorem pValue_num (f : Nat) {cs : List Char} (h : Starts numStart cs) :
    pValue (f + 1) cs = (pNumber cs).map fun (t, r) => (Val.num t, r) := by
  obtain ⟨c, r, rfl, hc⟩ := h.cons
  rw [pValue, skipWs_of_class (by decide) hc]
  simp only [ne_of_class hc (x := '"') (by decide), ne_of_class hc (x := '[') (by decide), imp_self]
  exact if_pos hc

theorem pValue_numeral (f : Nat) {t rest : List Char} (ht : IsNumeral t = true) (hr : Starts stop rest) :
    pValue (f + 1) (t ++ rest) = some (.num t, rest) := by
  rw [pValue_num f ((numeral_starts ht).append _), pNumber_numeral t rest ht hr]; rfl

theorem pValue_of_pIdent (f : Nat) {cs w r : List Char} (h : pIdent cs = some (w, r)) :
    pValue (f + 1) cs =
      (if w = c!"true" then some (Val.bool true) else if w = c!"false" then some (.bool false)
        else if w = c!"undef" then some .undef else none).map fun v => (v, r) := by
  have h' := h
  rw [pIdent] at h
  split at h
  · rename_i c rest heq
    split at h
    · rename_i hs
      rw [pValue, heq]
      simp only [ne_of_class hs (x := '"') (by decide), ne_of_class hs (x := '[') (by decide), imp_self]
      rw [if_neg (by simp [not_digit_of_idStart hs, ne_of_class hs (x := '-') (by decide)]), ← heq, pIdent_skipWs, h']
      simp only [apply_ite (Option.map fun v => (v, r)), Option.map_some, Option.map_none]
    · cases h
  · cases h

theorem pValue_keyword (f : Nat) {w rest : List Char} (hw : IsIdent w = true) (hr : Starts stop rest) :
    pValue (f + 1) (w ++ rest) =
      (if w = c!"true" then some (Val.bool true) else if w = c!"false" then some (.bool false)
        else if w = c!"undef" then some .undef else none).map fun v => (v, rest) := by
  obtain ⟨d, r, rfl, hd⟩ := hr.cons
  exact pValue_of_pIdent f (pIdent_ident w d r hw (stop_iff.mp hd).2.1)

theorem pItems_last {f : Nat} {cs r : List Char} {v : Val} (hv : pValue f cs = some (v, ']' :: r)) :
    pItems (f + 1) cs = some ([v], r) := by
  rw [pItems, hv]; simp only [skipWs_cons_of_not_ws ']' r (by decide)]
theorem pItems_more {f : Nat} {cs r : List Char} {v : Val} (hv : pValue f cs = some (v, ',' :: r)) :
    pItems (f + 1) cs = (pItems f r).map fun (vs, r') => (v :: vs, r') := by
  rw [pItems, hv]; simp only [skipWs_cons_of_not_ws ',' r (by decide)]

theorem pArg_named {fuel : Nat} {cs w r : List Char} (h : pIdent cs = some (w, '=' :: r)) :
    pArg fuel cs = (pValue fuel r).map fun (v, r') => (⟨some w, v⟩, r') := by
  rw [pArg, h]; simp only [skipWs_cons_of_not_ws '=' r (by decide)]

theorem pArg_pos {fuel : Nat} {cs r : List Char} {v : Val} (hv : pValue fuel cs = some (v, r))
    (hr : Starts stop r) : pArg fuel cs = some (⟨none, v⟩, r) := by
  rw [pArg]
  cases hid : pIdent cs with
  | none => simp only [hv]; rfl
  | some p =>
    obtain ⟨w, r'⟩ := p
    -- `pArg` looks ahead for `name =`; a value beginning with a word is that word, so `r` follows it
    obtain rfl : r' = r := by
      cases fuel with
      | zero => simp [pValue] at hv
      | succ f =>
        rw [pValue_of_pIdent f hid] at hv
        obtain ⟨_, -, e⟩ := Option.map_eq_some_iff.mp hv
        cases e; rfl
    obtain ⟨d, t, rfl, hd⟩ := hr.cons
    obtain ⟨-, -, -, heq, hws⟩ := stop_iff.mp hd
    simp only [skipWs_cons_of_not_ws d t hws, List.cons.injEq, heq, false_and, imp_self, implies_true, hv]; rfl

theorem pArgs_nil (n fuel : Nat) (r : List Char) : pArgs (n + 1) fuel (')' :: r) = some ([], r) := by
  rw [pArgs, skipWs_cons_of_not_ws _ _ (by decide)]; rfl

theorem pArgs_last {n fuel : Nat} {cs r : List Char} {a : PArg} (hs : Starts opener cs)
    (ha : pArg fuel cs = some (a, ')' :: r)) : pArgs (n + 1) fuel cs = some ([a], r) := by
  rw [pArgs, skipWs_opener hs]
  obtain ⟨c, t, rfl, hc⟩ := hs.cons
  simp only [List.cons.injEq, opener_ne hc (x := ')') (by decide), false_and, imp_self, implies_true, ha,
    skipWs_cons_of_not_ws ')' r (by decide)]

theorem pArgs_more {n fuel : Nat} {cs r : List Char} {a : PArg} (hs : Starts opener cs)
    (ha : pArg fuel cs = some (a, ',' :: r)) (hr : Starts opener (skipWs r)) :
    pArgs (n + 1) fuel cs = (pArgs n fuel r).map fun (as, r') => (a :: as, r') := by
  rw [pArgs, skipWs_opener hs]
  obtain ⟨c, t, rfl, hc⟩ := hs.cons
  obtain ⟨c', t', he, hc'⟩ := hr.cons
  simp only [List.cons.injEq, opener_ne hc (x := ')') (by decide), false_and, imp_self, implies_true, ha,
    skipWs_cons_of_not_ws ',' r (by decide), he, opener_ne hc' (x := ')') (by decide)]

theorem pStmt_semi {f : Nat} {cs name r1 r3 : List Char} {args : List PArg}
    (hid : pIdent cs = some (name, '(' :: r1))
    (ha : pArgs (r1.length + 1) (r1.length + 1) r1 = some (args, ';' :: r3)) :
    pStmt (f + 1) cs = some (.mk name args none, r3) := by
  rw [pStmt, hid]
  simp only [skipWs_cons_of_not_ws '(' r1 (by decide), ha, skipWs_cons_of_not_ws ';' r3 (by decide)]

theorem pStmt_block {f : Nat} {cs name r1 r2 r3 : List Char} {args : List PArg}
    (hid : pIdent cs = some (name, '(' :: r1))
    (ha : pArgs (r1.length + 1) (r1.length + 1) r1 = some (args, r2)) (h2 : skipWs r2 = '{' :: r3) :
    pStmt (f + 1) cs = (pBlock f r3).map fun (b, r4) => (.mk name args (some b), r4) := by
  rw [pStmt, hid]
  simp only [skipWs_cons_of_not_ws '(' r1 (by decide), ha, h2]

theorem pBlock_nil (f : Nat) (r : List Char) : pBlock (f + 1) ('}' :: r) = some (.nil, r) := by
  rw [pBlock, skipWs_cons_of_not_ws _ _ (by decide)]; rfl

theorem pBlock_cons {f : Nat} {cs r : List Char} {s : Stmt} (hs : Starts opener cs)
    (h : pStmt f cs = some (s, r)) : pBlock (f + 1) cs = (pBlock f r).map fun (b, r') => (.cons s b, r') := by
  rw [pBlock, skipWs_opener hs]
  obtain ⟨c, t, rfl, hc⟩ := hs.cons
  simp only [List.cons.injEq, opener_ne hc (x := '}') (by decide), false_and, imp_self, implies_true, h]

theorem pProgramAux_nil {k : Nat} {cs : List Char} (h : skipWs cs = []) : pProgramAux (k + 1) cs = some [] := by
  rw [pProgramAux, h]
theorem pProgramAux_cons {k : Nat} {cs r r' : List Char} {c : Char} {s : Stmt} (h : skipWs cs = c :: r)
    (hs : pStmt (cs.length + 1) cs = some (s, r')) : pProgramAux (k + 1) cs = (pProgramAux k r').map (s :: ·) := by
  rw [pProgramAux, h]; simp only [hs]
theorem pFileAux_nil {k : Nat} {cs : List Char} (h : skipWs cs = []) : pFileAux (k + 1) cs = some [] := by
  rw [pFileAux, h]
theorem pFileAux_cons {k : Nat} {cs r r' : List Char} {c : Char} {t : Top} (h : skipWs cs = c :: r)
    (ht : pTop cs = some (t, r')) : pFileAux (k + 1) cs = (pFileAux k r').map (t :: ·) := by
  rw [pFileAux, h]; simp only [ht]

theorem pTop_of_pStmt {cs r : List Char} {s : Stmt} (h : pStmt (cs.length + 1) cs = some (s, r)) :
    pTop cs = some (.stmt s, r) := by
  have h' := h
  rw [pStmt] at h
  rw [pTop]
  cases hid : pIdent cs with
  | none => rw [hid] at h; cases h
  | some p =>
    obtain ⟨w, r1⟩ := p
    rw [hid] at h
    simp only [] at h ⊢    -- reduces the `match` on `some (w, r1)`; `split` then meets the one on `skipWs r1`
    split at h
    · rename_i heq; rw [heq, h']; rfl
    · cases h

theorem pTop_assign {cs w r1 r3 : List Char} {v : Val} (hid : pIdent cs = some (w, '=' :: r1))
    (hv : pValue (r1.length + 1) r1 = some (v, ';' :: r3)) : pTop cs = some (.assign w v, r3) := by
  rw [pTop, hid]
  simp only [skipWs_cons_of_not_ws '=' r1 (by decide), hv, skipWs_cons_of_not_ws ';' r3 (by decide)]

mutual
def toVal : Value → Val
  | .num t => .num t
  | .bool b => .bool b
  | .str s => .str s
  | .undef => .undef
  | .vec _ items => .vec (toVals items)
def toVals : List Value → List Val
  | [] => []
  | v :: vs => toVal v :: toVals vs
end

mutual
def ValueOK : Value → Prop
  | .num t => IsNumeral t = true
  | .bool _ => True
  | .str s => NoNul s
  | .undef => True
  | .vec _ items => ValuesOK items
def ValuesOK : List Value → Prop
  | [] => True
  | v :: vs => ValueOK v ∧ ValuesOK vs
end

/- fuel: a unit per call of `pValue` or `pItems`; the `1 +` in `vsizes` is `pItems`' call per item -/
mutual
def vsize : Value → Nat
  | .vec _ items => 1 + vsizes items
  | _ => 1
def vsizes : List Value → Nat
  | [] => 0
  | v :: vs => 1 + vsize v + vsizes vs
end

theorem flatten_append (a b : List Piece) : flatten (a ++ b) = flatten a ++ flatten b := ScadVerif.flatten_append a b
theorem flatten_cons (p : Piece) (ps : List Piece) : flatten (p :: ps) = p.chars ++ flatten ps := ScadVerif.flatten_cons p ps
theorem flatten_nil : flatten [] = [] := rfl

theorem value_starts {v : Value} (hok : ValueOK v) : Starts opener (flatten v.pieces) := by
  cases v with
  | num t => rw [num_text]; exact (numeral_starts hok).imp fun _ => opener_of (by decide)
  | bool b => rw [bool_text]; cases b <;> rfl
  | str s => rw [str_text]; rfl
  | undef => rfl
  | vec sp items => rw [vec_text]; rfl

theorem items_starts (sp : Bool) {v : Value} (vs : List Value) (hok : ValueOK v) :
    Starts opener (flatten (Value.piecesList sp (v :: vs))) := by
  cases vs with
  | nil => exact value_starts hok
  | cons w ws => rw [items_text]; exact (value_starts hok).append _

theorem vsize_pos (v : Value) : 0 < vsize v := by
  cases v <;> simp only [vsize] <;> omega

mutual
theorem pValue_pieces : (v : Value) → (rest : List Char) → (fuel : Nat) → ValueOK v → Starts stop rest →
    vsize v ≤ fuel → pValue fuel (flatten v.pieces ++ rest) = some (toVal v, rest)
  | v, _, 0, _, _, hf => absurd hf (Nat.not_le.mpr (vsize_pos v))
  | v, rest, f + 1, hok, hr, hf => by
    cases v with
    | num t => rw [num_text]; exact pValue_numeral f hok hr
    | bool b =>
      cases b
      · exact bool_text false ▸ pValue_keyword f (w := c!"false") rfl hr
      · exact bool_text true ▸ pValue_keyword f (w := c!"true") rfl hr
    | undef => exact undef_text ▸ pValue_keyword f (w := c!"undef") rfl hr
    | str s =>
      rw [str_text, List.singleton_append, List.cons_append, List.append_assoc, pValue_str, List.singleton_append,
        pStrBody_escape s rest hok]; rfl
    | vec sp items =>
      rw [vec_text, List.singleton_append, List.cons_append, List.append_assoc, List.singleton_append]
      cases items with
      | nil => exact pValue_vec_nil f rest
      | cons v vs =>
        rw [pValue_vec_cons f ((items_starts sp vs hok.1).append _),
          pItems_pieces sp v vs rest f hok (by simp only [vsize] at hf; omega)]; rfl
termination_by structural _ _ fuel => fuel
theorem pItems_pieces : (sp : Bool) → (v : Value) → (vs : List Value) → (rest : List Char) → (fuel : Nat) →
    ValuesOK (v :: vs) → vsizes (v :: vs) ≤ fuel →
    pItems fuel (flatten (Value.piecesList sp (v :: vs)) ++ ']' :: rest) = some (toVals (v :: vs), rest)
  | _, _, _, _, 0, _, hf => by simp [vsizes] at hf
  | sp, v, vs, rest, f + 1, hok, hf => by
    have hv := fun rest hr => pValue_pieces v rest f hok.1 hr (by simp only [vsizes] at hf; omega)
    cases vs with
    | nil => rw [items_text_one, pItems_last (hv (']' :: rest) rfl)]; rfl
    | cons w ws =>
      rw [items_text, List.append_assoc, List.singleton_append, List.cons_append, pItems_more (hv _ rfl), List.append_assoc,
        ws_append (pItems_skipWs f) (by cases sp <;> rfl),
        pItems_pieces sp w ws rest f hok.2 (by simp only [vsizes] at hf ⊢; omega)]; rfl
termination_by structural _ _ _ _ fuel => fuel
end

def toPArg : Arg → PArg
  | .named n v => ⟨some n, toVal v⟩
  | .pos v => ⟨none, toVal v⟩
def ArgOK : Arg → Prop
  | .named n v => IsIdent n = true ∧ ValueOK v
  | .pos v => ValueOK v

theorem arg_starts {a : Arg} (hok : ArgOK a) : Starts opener (flatten a.pieces) := by
  cases a with
  | named n v => rw [named_text]; exact (ident_opens hok.1).append _
  | pos v => exact value_starts hok
theorem args_starts {a : Arg} (as : List Arg) (hok : ArgOK a) : Starts opener (flatten (argsPieces (a :: as))) := by
  cases as with
  | nil => exact arg_starts hok
  | cons b tl => rw [args_text]; exact (arg_starts hok).append _

mutual
theorem vsize_le : (v : Value) → ValueOK v → vsize v ≤ (flatten v.pieces).length
  | .num t, hok => by
    obtain ⟨c, r, rfl, _⟩ := (numeral_starts hok).cons
    rw [num_text]; exact Nat.succ_le_succ (Nat.zero_le _)
  | .bool b, _ => by rw [bool_text]; cases b <;> decide
  | .str s, _ => by rw [str_text]; exact Nat.succ_le_succ (Nat.zero_le _)
  | .undef, _ => by decide
  | .vec sp items, hok => by
    have := vsizes_le sp items hok
    simp only [vsize, vec_text, List.length_cons, List.length_append, List.length_nil]
    omega
theorem vsizes_le : (sp : Bool) → (vs : List Value) → ValuesOK vs →
    vsizes vs ≤ (flatten (Value.piecesList sp vs)).length + 1
  | _, [], _ => Nat.zero_le _
  | sp, [v], hok => by
    have := vsize_le v hok.1
    simp only [vsizes, items_text_one]; omega
  | sp, v :: w :: rest, hok => by
    have h1 := vsize_le v hok.1
    have h2 := vsizes_le sp (w :: rest) hok.2
    simp only [vsizes] at h2 ⊢
    simp only [items_text, List.length_append, List.length_cons]
    omega
end

/- `pArg_pieces`, `pArgs_pieces` bound fuel by characters, not calls: `pStmt` gives `pArgs` the bound `r1.length + 1`
twice, as argument count (`n`) and as the `fuel` of every `pValue` under it.  `vsize_le` takes text length to the
`vsize` `pValue_pieces` wants; `pStmt_pieces` counts calls again (`tsize`). -/
theorem pArg_pieces (a : Arg) (rest : List Char) (fuel : Nat) (hok : ArgOK a) (hr : Starts stop rest)
    (hf : (flatten a.pieces).length ≤ fuel) : pArg fuel (flatten a.pieces ++ rest) = some (toPArg a, rest) := by
  cases a with
  | named n v =>
    have := vsize_le v hok.2
    rw [named_text, List.length_append, List.singleton_append, List.length_cons] at hf
    rw [named_text, List.append_assoc, List.singleton_append, List.cons_append,
      pArg_named (pIdent_ident n '=' _ hok.1 (by decide)), pValue_pieces v rest fuel hok.2 hr (by omega)]; rfl
  | pos v => exact pArg_pos (pValue_pieces v rest fuel hok hr (Nat.le_trans (vsize_le v hok) hf)) hr

theorem pArgs_pieces : (as : List Arg) → (rest : List Char) → (n fuel : Nat) → (∀ a ∈ as, ArgOK a) →
    (flatten (argsPieces as) ++ ')' :: rest).length < n → (flatten (argsPieces as) ++ ')' :: rest).length < fuel →
    pArgs n fuel (flatten (argsPieces as) ++ ')' :: rest) = some (as.map toPArg, rest)
  | [], rest, n + 1, fuel, _, _, _ => pArgs_nil n fuel rest
  | [a], rest, n + 1, fuel, hok, _, hf => by
    rw [args_text_one, List.length_append] at hf
    exact pArgs_last ((arg_starts (hok a (by simp))).append _)
      (pArg_pieces a _ fuel (hok a (by simp)) (by exact rfl) (by omega))
  | a :: b :: tl, rest, n + 1, fuel, hok, hn, hf => by
    have hb := (args_starts tl (hok b (by simp))).append (')' :: rest)
    simp only [args_text, List.length_append, List.length_cons, List.length_nil] at hn hf
    simp only [args_text, List.append_assoc, List.cons_append, List.nil_append]
    rw [pArgs_more ((arg_starts (hok a (by simp))).append _)
        (pArg_pieces a _ fuel (hok a (by simp)) (by exact rfl) (by omega))
        (by rwa [skipWs_of_ws ' ' _ rfl, skipWs_opener hb]),
      ws_cons (pArgs_skipWs n fuel) rfl,
      pArgs_pieces (b :: tl) rest n fuel (fun x hx => hok x (by simp [hx]))
        (by simp only [List.length_append, List.length_cons]; omega)
        (by simp only [List.length_append, List.length_cons]; omega)]
    rfl

section Stmts
variable {ν : Type} (showNum : ν → List Char)

/- a `none` header gets a junk statement; `TreeOK` demands a header -/
mutual
def toStmt : Scad ν → Stmt
  | .mk op cs =>
    match op.header showNum with
    | some h => .mk h.name (h.args.map toPArg) (if op.isPrimitive then none else some (toStmts cs))
    | none => .mk [] [] none
def toStmts : ScadList ν → StmtList
  | .nil => .nil
  | .cons h t => .cons (toStmt h) (toStmts t)
end

theorem toStmt_mk {op : ScadOp ν} {h : Header} (hh : op.header showNum = some h) (cs : ScadList ν) :
    toStmt showNum (.mk op cs) =
      .mk h.name (h.args.map toPArg) (if op.isPrimitive then none else some (toStmts showNum cs)) := by
  rw [toStmt, hh]

def HeaderOK (h : Header) : Prop := IsIdent h.name = true ∧ ∀ a ∈ h.args, ArgOK a

/- What the round trip needs.  No children under a primitive: the emitter writes them after the `;`, where they parse
as siblings.  Implied by `C01.WellFormed` (`treeOK_of_wellFormed`). -/
mutual
def TreeOK : Scad ν → Prop
  | .mk op cs =>
    (∃ h, op.header showNum = some h ∧ HeaderOK h) ∧ (op.isPrimitive = true → cs = .nil) ∧ TreesOK cs
def TreesOK : ScadList ν → Prop
  | .nil => True
  | .cons h t => TreeOK h ∧ TreesOK t
end

/- fuel; `2 +`: `pStmt`, and the call of its `pBlock` that meets `}` -/
mutual
def tsize : Scad ν → Nat
  | .mk _ cs => 2 + tsizes cs
def tsizes : ScadList ν → Nat
  | .nil => 0
  | .cons h t => tsize h + tsizes t
end

theorem prim_text (op : ScadOp ν) (h : Header) (hh : op.header showNum = some h)
    (hp : op.isPrimitive = true) (rest : List Char) :
    flatten (Scad.pieces showNum (.mk op .nil)) ++ rest =
      h.name ++ '(' :: (flatten (argsPieces h.args) ++ ')' :: ';' :: '\n' :: rest) := by
  simp [Scad.pieces, ScadList.pieces, hh, hp, header_text, flatten_append, flatten_cons, Piece.chars,
    Tok.chars, flatten_nil]

theorem block_text (op : ScadOp ν) (cs : ScadList ν) (h : Header) (hh : op.header showNum = some h)
    (hp : op.isPrimitive = false) (rest : List Char) :
    flatten (Scad.pieces showNum (.mk op cs)) ++ rest =
      h.name ++ '(' :: (flatten (argsPieces h.args) ++ ')' :: ' ' :: '{' :: '\n' ::
        (flatten (ScadList.pieces showNum cs) ++ '}' :: '\n' :: rest)) := by
  simp [Scad.pieces, hh, hp, header_text, flatten_append, flatten_cons, Piece.chars,
    Tok.chars, flatten_nil]

theorem trees_text (t : Scad ν) (ts : ScadList ν) :
    flatten (ScadList.pieces showNum (.cons t ts)) = flatten (t.pieces showNum) ++ flatten (ScadList.pieces showNum ts) := by
  rw [ScadList.pieces, flatten_append]

theorem tree_starts {t : Scad ν} (hok : TreeOK showNum t) : Starts opener (flatten (t.pieces showNum)) := by
  obtain ⟨op, cs⟩ := t
  obtain ⟨⟨h, hh, hname, -⟩, -, -⟩ := hok
  simp only [Scad.pieces, hh, flatten_append, header_text, List.append_assoc]
  exact (ident_opens hname).append _

theorem tsize_ge (t : Scad ν) : 2 ≤ tsize t := by
  cases t; simp [tsize]

mutual
theorem pStmt_pieces : (t : Scad ν) → (rest : List Char) → (fuel : Nat) → TreeOK showNum t → tsize t ≤ fuel →
    pStmt fuel (flatten (t.pieces showNum) ++ rest) = some (toStmt showNum t, '\n' :: rest)
  | t, _, 0, _, hf => absurd (Nat.le_trans (tsize_ge t) hf) (by decide)
  | .mk op cs, rest, f + 1, ⟨⟨h, hh, hname, hargs⟩, hprim, hcs⟩, hf => by
    have hid := fun r => pIdent_ident h.name '(' r hname (by decide)
    have hargs' := fun r => pArgs_pieces h.args r _ _ hargs (Nat.lt_succ_self _) (Nat.lt_succ_self _)
    cases hp : op.isPrimitive with
    | true =>
      obtain rfl := hprim hp
      rw [prim_text showNum op h hh hp rest, pStmt_semi (hid _) (hargs' _), toStmt_mk showNum hh, hp]
      rfl
    | false =>
      rw [block_text showNum op cs h hh hp rest,
        pStmt_block (hid _) (hargs' _) (by rw [skipWs_of_ws ' ' _ rfl, skipWs_cons_of_not_ws '{' _ (by decide)]),
        ws_cons (pBlock_skipWs f) rfl, pBlock_pieces cs ('\n' :: rest) f hcs (by simp only [tsize] at hf; omega),
        toStmt_mk showNum hh, hp]
      rfl
termination_by structural _ _ fuel => fuel
theorem pBlock_pieces : (cs : ScadList ν) → (rest : List Char) → (fuel : Nat) → TreesOK showNum cs →
    tsizes cs < fuel →
    pBlock fuel (flatten (ScadList.pieces showNum cs) ++ '}' :: rest) = some (toStmts showNum cs, rest)
  | _, _, 0, _, hf => absurd hf (Nat.not_lt_zero _)
  | .nil, rest, f + 1, _, _ => pBlock_nil f rest
  | .cons t ts, rest, f + 1, hok, hf => by
    have := tsize_ge t
    rw [trees_text, List.append_assoc,
      pBlock_cons ((tree_starts showNum hok.1).append _) (pStmt_pieces t _ f hok.1 (by simp only [tsizes] at hf; omega)),
      ws_cons (pBlock_skipWs f) rfl, pBlock_pieces ts rest f hok.2 (by simp only [tsizes] at hf; omega)]
    rfl
termination_by structural _ _ fuel => fuel
end

mutual
theorem tsize_le : (t : Scad ν) → TreeOK showNum t → tsize t ≤ (flatten (t.pieces showNum)).length
  | .mk op cs, hok => by
    obtain ⟨⟨h, hh, _, _⟩, hprim, hcs⟩ := hok
    cases hp : op.isPrimitive with
    | true =>
      have := hprim hp; subst this
      have := congrArg List.length (prim_text showNum op h hh hp [])
      simp only [List.append_nil, List.length_append, List.length_cons] at this
      simp only [tsize, tsizes]; omega
    | false =>
      have h1 := tsizes_le cs hcs
      have := congrArg List.length (block_text showNum op cs h hh hp [])
      simp only [List.append_nil, List.length_append, List.length_cons] at this
      simp only [tsize]; omega
theorem tsizes_le : (cs : ScadList ν) → TreesOK showNum cs →
    tsizes cs ≤ (flatten (ScadList.pieces showNum cs)).length
  | .nil, _ => Nat.zero_le _
  | .cons t ts, hok => by
    have h1 := tsize_le t hok.1
    have h2 := tsizes_le ts hok.2
    simp only [tsizes, trees_text, List.length_append]; omega
end

theorem pStmt_text_fuel (w : List Char) (hw : w.all isWs = true) (t : Scad ν) (hok : TreeOK showNum t)
    (rest : List Char) :
    pStmt ((w ++ (flatten (t.pieces showNum) ++ rest)).length + 1) (w ++ (flatten (t.pieces showNum) ++ rest)) =
      some (toStmt showNum t, '\n' :: rest) := by
  rw [ws_append (pStmt_skipWs _) hw]
  apply pStmt_pieces showNum t rest _ hok
  have := tsize_le showNum t hok
  simp only [List.length_append]; omega

theorem emitAll_cons (t : Scad ν) (ts : List (Scad ν)) :
    emitAll showNum (t :: ts) = flatten (t.pieces showNum) ++ emitAll showNum ts := by
  simp [emitAll, Scad.emit]

/-- `pProgramAux` and `pFileAux` as one loop.  The prefix `w` carries the recursion: each item leaves its line feed
unread, so the next round starts on `['\n']`. -/
theorem loop_emitAll {α : Type} {loop : Nat → List Char → Option (List α)}
    {item : List Char → Option (α × List Char)}
    (hnil : ∀ {k cs}, skipWs cs = [] → loop (k + 1) cs = some [])
    (hcons : ∀ {k cs c r t r'}, skipWs cs = c :: r → item cs = some (t, r') →
      loop (k + 1) cs = (loop k r').map (t :: ·))
    {f : Scad ν → α}
    (hitem : ∀ w, w.all isWs = true → ∀ t, TreeOK showNum t → ∀ rest,
      item (w ++ (flatten (t.pieces showNum) ++ rest)) = some (f t, '\n' :: rest)) :
    (ts : List (Scad ν)) → (k : Nat) → (∀ t ∈ ts, TreeOK showNum t) → ts.length < k →
    (w : List Char) → w.all isWs = true → loop k (w ++ emitAll showNum ts) = some (ts.map f)
  | [], k + 1, _, _, w, hw => hnil (skipWs_all_ws w hw _)
  | t :: ts, k + 1, hok, hk, w, hw => by
    have hs := (tree_starts showNum (hok t (by simp))).append (emitAll showNum ts)
    obtain ⟨c, r, he, -⟩ := hs.cons
    rw [emitAll_cons, hcons ((skipWs_all_ws w hw _).trans ((skipWs_opener hs).trans he))
        (hitem w hw t (hok t (by simp)) _), ← List.singleton_append,
      loop_emitAll hnil hcons hitem ts k (fun x hx => hok x (by simp [hx])) (by simpa using hk) ['\n'] rfl]
    rfl

/-- `2`: a tree's text is no shorter than its `tsize` (`tsize_le`), which is ≥ 2 (`tsize_ge`).  The users, bounding
the fuel of `pProgramAux` and `pFileAux`, would do with factor 1. -/
theorem length_le_emitAll (ts : List (Scad ν)) (hok : ∀ t ∈ ts, TreeOK showNum t) :
    2 * ts.length ≤ (emitAll showNum ts).length := by
  induction ts with
  | nil => exact Nat.zero_le _
  | cons t ts ih =>
    have h1 := tsize_le showNum t (hok t (by simp))
    have h2 := tsize_ge t
    have := ih (fun x hx => hok x (by simp [hx]))
    rw [emitAll_cons, List.length_append, List.length_cons]; omega

theorem parseProgram_emitAll (ts : List (Scad ν)) (hok : ∀ t ∈ ts, TreeOK showNum t) :
    parseProgram (emitAll showNum ts) = some (ts.map (toStmt showNum)) :=
  loop_emitAll showNum (item := fun cs => pStmt (cs.length + 1) cs) pProgramAux_nil pProgramAux_cons
    (pStmt_text_fuel showNum) ts _ hok (by have := length_le_emitAll showNum ts hok; omega) [] rfl

/-- the fields printed as string literals, among them alignment, direction and colour names (enums in Rust);
the lexer rejects NUL in a literal -/
def _root_.ScadVerif.ScadOp.strings : ScadOp ν → List (List Char)
  | .text t _ f h v _ d l s _ => [t, f, h, v, d, l, s]
  | .import_ f _ => [f]
  | .surface f _ _ _ => [f]
  | .color _ c h _ => c.toList ++ h.toList
  | _ => []

theorem isDigit_of_charIsDigit (c : Char) (h : c.isDigit = true) : isDigit c = true := by
  simp only [Char.isDigit, Bool.and_eq_true, decide_eq_true_eq] at h
  simp only [isDigit, Bool.and_eq_true, decide_eq_true_eq]
  exact ⟨by simpa [Char.le_def] using h.1, by simpa [Char.le_def] using h.2⟩

theorem isNumeral_of_digits (ds : List Char) (hne : ds ≠ []) (h : ds.all isDigit = true) :
    IsNumeral ds = true := by
  cases ds with
  | nil => exact absurd rfl hne
  | cons c r =>
    have h' : ∀ a ∈ c :: r, isDigit a = true := by simpa using h
    have e1 : (c :: r).takeWhile isDigit = c :: r := by simpa using List.takeWhile_append_of_pos (l₂ := []) h'
    have e2 : (c :: r).dropWhile isDigit = [] := by simpa using List.dropWhile_append_of_pos (l₂ := []) h'
    simp [IsNumeral, numBody_of_ne c r (ne_of_class (h' c (List.mem_cons_self ..)) (by decide)), e1, e2]

theorem natDigits_all_isDigit (n : Nat) : (natDigits n).all isDigit = true :=
  List.all_eq_true.mpr fun c hc => isDigit_of_charIsDigit c (Nat.isDigit_of_mem_toDigits (by decide) (by decide) hc)

theorem natDigits_numeral (n : Nat) : IsNumeral (natDigits n) = true :=
  isNumeral_of_digits _ Nat.toDigits_ne_nil (natDigits_all_isDigit n)

theorem valuesOK_iff (l : List Value) : ValuesOK l ↔ ∀ v ∈ l, ValueOK v := by
  induction l with
  | nil => simp [ValuesOK]
  | cons a t ih => simp [ValuesOK, ih]

section HeaderOK
variable (hnum : ∀ x, IsNumeral (showNum x) = true)
include hnum

theorem vNum_ok (x : ν) : ValueOK (vNum showNum x) := by simp [vNum, ValueOK, hnum]
omit hnum in
theorem vNat_ok (n : Nat) : ValueOK (vNat n) := by simp [vNat, ValueOK, natDigits_numeral]
theorem vPt2_ok (p : Pt2 ν) : ValueOK (vPt2 showNum p) := by simp [vPt2, ValueOK, ValuesOK, vNum, hnum]
theorem vPt3_ok (p : Pt3 ν) : ValueOK (vPt3 showNum p) := by simp [vPt3, ValueOK, ValuesOK, vNum, hnum]
theorem vPt4_ok (p : Pt4 ν) : ValueOK (vPt4 showNum p) := by simp [vPt4, ValueOK, ValuesOK, vNum, hnum]
omit hnum in
theorem vec_map_ok {β : Type} (sp : Bool) (f : β → Value) (hf : ∀ x, ValueOK (f x)) (l : List β) :
    ValueOK (.vec sp (l.map f)) := by
  simp only [ValueOK, valuesOK_iff, List.mem_map]
  rintro v ⟨x, _, rfl⟩; exact hf x
theorem vPt2s_ok (ps : List (Pt2 ν)) : ValueOK (vPt2s showNum ps) := vec_map_ok _ _ (vPt2_ok showNum hnum) ps
theorem vPt3s_ok (ps : List (Pt3 ν)) : ValueOK (vPt3s showNum ps) := vec_map_ok _ _ (vPt3_ok showNum hnum) ps
omit hnum in
theorem vIndices_ok (is : List Nat) : ValueOK (vIndices is) := vec_map_ok _ _ vNat_ok is
omit hnum in
theorem vPaths_ok (ps : List (List Nat)) : ValueOK (vPaths ps) := vec_map_ok _ _ vIndices_ok ps

omit hnum in
theorem forall_mem_faFsFn {p : Arg → Prop} (fa fs : Option ν) (fn : Option Nat) :
    (∀ a ∈ faFsFn showNum fa fs fn, p a) ↔
      (∀ x ∈ fa, p (.named c!"$fa" (vNum showNum x))) ∧ (∀ x ∈ fs, p (.named c!"$fs" (vNum showNum x))) ∧
        ∀ n ∈ fn, p (.named c!"$fn" (vNat n)) := by
  cases fa <;> cases fs <;> cases fn <;> simp [faFsFn]
omit hnum in
theorem forall_mem_optNat {p : Arg → Prop} (name : List Char) (o : Option Nat) :
    (∀ a ∈ optNat name o, p a) ↔ ∀ n ∈ o, p (.named name (vNat n)) := by
  cases o <;> simp [optNat]

omit hnum in
theorem named_ok (n : List Char) (v : Value) (h1 : IsIdent n = true) (h2 : ValueOK v) : ArgOK (.named n v) :=
  ⟨h1, h2⟩

/- `hdr_args` splits `HeaderOK` of a concrete header into `IsIdent` of every name (decided) and `ValueOK` of every
value, closed by the `v*_ok` lemmas and, for strings, `hs`.  `hygiene false`: `showNum`, `hnum`, `hs` are the using
theorem's. -/
set_option hygiene false in
local macro "hdr_args" : tactic => `(tactic|
  simp +decide only [HeaderOK, List.forall_mem_cons, List.forall_mem_append, forall_mem_faFsFn, forall_mem_optNat,
    List.not_mem_nil, false_imp_iff, implies_true, ↓reduceIte, ArgOK,
    ValueOK, ValuesOK, vNum_ok showNum hnum, vNat_ok, vPt2_ok showNum hnum, vPt3_ok showNum hnum, vPt4_ok showNum hnum,
    vPt2s_ok showNum hnum, vPt3s_ok showNum hnum, vPaths_ok, hs])

theorem header_ok (op : ScadOp ν) (hs : ∀ s ∈ op.strings, NoNul s) (h : Header)
    (hh : op.header showNum = some h) : HeaderOK h := by
  cases op <;> simp only [ScadOp.header, Option.some.injEq] at hh <;>
    simp only [ScadOp.strings, List.forall_mem_cons] at hs
  case polygon _ paths _ => subst hh; cases paths <;> hdr_args
  case resize isv _ _ => subst hh; cases isv <;> hdr_args
  case rotate a sc _ =>
    cases a <;> cases sc <;> simp only [if_true, if_false, Bool.false_eq_true, Option.some.injEq] at hh <;> subst hh <;>
      hdr_args
  case offset r d _ =>
    cases r <;> cases d <;> simp only [Option.some.injEq, reduceCtorEq] at hh <;> subst hh <;> hdr_args
  case color rgba col hex alpha =>
    cases rgba <;> cases col <;> cases hex <;> cases alpha <;>
      simp only [Option.some.injEq, reduceCtorEq, Option.toList, List.nil_append, List.cons_append, List.forall_mem_cons]
        at hh hs <;>
      subst hh <;> hdr_args
  all_goals subst hh; hdr_args

end HeaderOK
theorem pFileAux_emitAll : (ts : List (Scad ν)) → (k : Nat) → (∀ t ∈ ts, TreeOK showNum t) → ts.length < k →
    (w : List Char) → w.all isWs = true →
    pFileAux k (w ++ emitAll showNum ts) = some (ts.map fun t => Top.stmt (toStmt showNum t)) :=
  loop_emitAll showNum pFileAux_nil pFileAux_cons
    fun w hw t hok rest => pTop_of_pStmt (pStmt_text_fuel showNum w hw t hok rest)

theorem pFileAux_assign_step (k : Nat) (w name t rest : List Char) (hw : w.all isWs = true)
    (hn : IsIdent name = true) (ht : IsNumeral t = true) :
    pFileAux (k + 1) (w ++ (name ++ '=' :: (t ++ ';' :: rest))) =
      (pFileAux k rest).map (Top.assign name (.num t) :: ·) := by
  have hs := (ident_opens hn).append ('=' :: (t ++ ';' :: rest))
  have htop : pTop (w ++ (name ++ '=' :: (t ++ ';' :: rest))) = some (.assign name (.num t), rest) :=
    pTop_assign ((ws_append pIdent_skipWs hw _).trans (pIdent_ident name '=' _ hn (by decide)))
      (pValue_numeral _ ht rfl)
  obtain ⟨c, r, he, -⟩ := hs.cons
  exact pFileAux_cons ((skipWs_all_ws w hw _).trans ((skipWs_opener hs).trans he)) htop

end Stmts

end ScadVerif.ParserLemmas
