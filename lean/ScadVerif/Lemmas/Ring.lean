/-
Consecutive pairs of a cyclic list, `ringPairs [a, b, c] = [(a, b), (b, c), (c, a)]`: the terms of the signed
area (`Spec.area2`) and the directed edges of a polygon or face (`TriLemmas.ringE`, `Spec.faceEdges`).
Cutting a vertex out of the cycle is proved once, for both.
-/
import ScadVerif.Model.Tri
namespace ScadVerif.Ring
open ScadVerif.Tri
variable {β : Type}

def pairsTo : List β → β → List (β × β)
  | [], _ => []
  | a :: l, z => (a, l.headD z) :: pairsTo l z

def ringPairs : List β → List (β × β)
  | [] => []
  | a :: l => pairsTo (a :: l) a

theorem pairsTo_append (a b : List β) (z : β) :
    pairsTo (a ++ b) z = pairsTo a (b.headD z) ++ pairsTo b z := by
  induction a with
  | nil => rfl
  | cons x a ih => cases a <;> simp_all [pairsTo]

theorem ringPairs_eq (d : β) (l : List β) : ringPairs l = pairsTo l (l.headD d) := by
  cases l <;> rfl

theorem pairsTo_eq_range (d : β) (l : List β) (z : β) :
    pairsTo l z = (List.range l.length).map fun i => (l.getD i d, l.getD (i + 1) z) := by
  induction l with
  | nil => rfl
  | cons a l ih =>
    rw [pairsTo, ih, List.length_cons, List.range_succ_eq_map, List.map_cons, List.map_map]
    cases l <;> rfl

theorem ringPairs_eq_range (d : β) (l : List β) :
    ringPairs l = (List.range l.length).map fun i => (l.getD i d, l.getD ((i + 1) % l.length) d) := by
  rw [ringPairs_eq d, pairsTo_eq_range d]
  apply List.map_congr_left
  intro i hi
  have hi := List.mem_range.mp hi
  simp only [List.getD_eq_getElem?_getD, Prod.mk.injEq, true_and]
  by_cases h : i + 1 = l.length
  · rw [h, Nat.mod_self, List.getElem?_eq_none (Nat.le_refl _)]; cases l <;> rfl
  · rw [Nat.mod_eq_of_lt (by omega), List.getElem?_eq_getElem (by omega)]; rfl

theorem mem_ringPairs (l : List β) (e : β × β) (h : e ∈ ringPairs l) : e.1 ∈ l ∧ e.2 ∈ l := by
  cases l with
  | nil => cases h
  | cons d t =>
    have m : ∀ j, (d :: t).getD j d ∈ d :: t := fun j => by
      rw [List.getD_eq_getElem?_getD]
      cases hj : (d :: t)[j]? with
      | none => simp
      | some x => exact List.mem_of_getElem? hj
    rw [ringPairs_eq_range d, List.mem_map] at h
    obtain ⟨i, -, rfl⟩ := h
    exact ⟨m _, m _⟩

theorem ringPairs_rotate (a b : List β) : (ringPairs (a ++ b)).Perm (ringPairs (b ++ a)) := by
  cases a with
  | nil => simp
  | cons x a =>
    cases b with
    | nil => simp
    | cons y b =>
      simp only [ringPairs, List.cons_append]
      rw [← List.cons_append, ← List.cons_append, pairsTo_append, pairsTo_append]
      exact List.perm_append_comm

/-- cutting `x` out of `x :: m`: the two pairs at `x` go, the pair of its neighbours comes -/
theorem ringPairs_cons (x : β) (m : List β) :
    ((m.getLastD x, m.headD x) :: ringPairs (x :: m)).Perm
      ((m.getLastD x, x) :: (x, m.headD x) :: ringPairs m) := by
  rcases List.eq_nil_or_concat m with rfl | ⟨m, p, rfl⟩
  · exact List.Perm.refl _
  · -- only the last pair of `pairsTo (m ++ [p]) _` depends on where it is closed
    rw [List.concat_eq_append]
    have ends : ∀ (u v : β × β) c, (u :: (c ++ [v])).Perm (v :: (c ++ [u])) := fun u v c =>
      (List.perm_append_comm (l₁ := u :: c) (l₂ := [v])).trans ((List.perm_append_singleton u c).symm.cons v)
    rw [ringPairs_eq x (m ++ [p]), ringPairs, pairsTo, pairsTo_append, pairsTo_append]
    simpa [pairsTo] using ends _ _ ((x, (m ++ [p]).headD x) :: pairsTo m p)

theorem pairsTo_reverse (l : List β) (z w : β) :
    ((l.headD z, w) :: (pairsTo l z).map Prod.swap).Perm ((z, l.getLastD w) :: pairsTo l.reverse w) := by
  induction l generalizing w with
  | nil => exact List.Perm.refl _
  | cons a t ih =>
    rw [List.reverse_cons, pairsTo_append, pairsTo, List.map_cons, List.getLastD_cons]
    -- (a,w) :: X :: L ~ X' :: (L' ++ [(a,w)])  with  X :: L ~ X' :: L'  by `ih`
    exact ((ih a).cons _).trans ((List.perm_append_singleton _ _).symm.trans (by simp [pairsTo]))

theorem ringPairs_reverse (l : List β) : (ringPairs l.reverse).Perm ((ringPairs l).map Prod.swap) := by
  cases l with
  | nil => exact List.Perm.refl _
  | cons a t =>
    have h := pairsTo_reverse (a :: t) a (t.getLastD a)
    rw [List.getLastD_cons, List.headD_cons] at h
    rw [ringPairs_eq (t.getLastD a), show (a :: t).reverse.headD (t.getLastD a) = t.getLastD a by simp]
    exact h.cons_inv.symm

theorem getD_lt (d : β) (l : List β) (i : Nat) (h : i < l.length) : l[i]?.getD d = l[i] := by
  rw [List.getElem?_eq_getElem h]; rfl

theorem getD_prevIdx (d : β) (l : List β) (e : Nat) (he : e < l.length) :
    l.getD (prevIdx l.length e) d = (l.drop (e + 1) ++ l.take e).getLastD l[e] := by
  simp only [prevIdx, List.getD_eq_getElem?_getD, List.getLastD_eq_getLast?, List.getLast?_append,
    List.getLast?_take, List.getLast?_drop]
  by_cases h0 : e = 0
  · subst h0
    by_cases h1 : l.length ≤ 1
    · simp [h1, show l.length - 1 = 0 by omega, getD_lt _ l 0 he]
    · simp [h1, List.getLast?_eq_getElem?, getD_lt _ l (l.length - 1) (by omega)]
  · simp [h0, getD_lt _ l (e - 1) (by omega)]

theorem getD_nextIdx (d : β) (l : List β) (e : Nat) (he : e < l.length) :
    l.getD (nextIdx l.length e) d = (l.drop (e + 1) ++ l.take e).headD l[e] := by
  simp only [nextIdx, List.getD_eq_getElem?_getD, List.headD_eq_head?_getD, List.head?_append, List.head?_drop,
    List.head?_take]
  by_cases h1 : e = l.length - 1
  · rw [List.getElem?_eq_none (i := e + 1) (by omega)]
    by_cases h0 : e = 0
    · simp [h0, ← h1, getD_lt _ l 0 (by omega)]
    · simp [h0, ← h1, List.head?_eq_getElem?, getD_lt _ l 0 (by omega)]
  · simp [h1, getD_lt _ l (e + 1) (by omega)]

/-- `ringPairs_cons` at any index: rotate `l[e]` to the front, cut it there, rotate back -/
theorem ringPairs_eraseIdx (d : β) (l : List β) (e : Nat) (he : e < l.length) :
    ((l.getD (prevIdx l.length e) d, l.getD (nextIdx l.length e) d) :: ringPairs l).Perm
      ((l.getD (prevIdx l.length e) d, l.getD e d) :: (l.getD e d, l.getD (nextIdx l.length e) d) ::
        ringPairs (l.eraseIdx e)) := by
  have hr := ringPairs_rotate (l.take e) (l[e] :: l.drop (e + 1))
  rw [show l.take e ++ l[e] :: l.drop (e + 1) = l by simp] at hr
  rw [getD_prevIdx d l e he, getD_nextIdx d l e he, List.getD_eq_getElem?_getD, getD_lt d l e he,
    List.eraseIdx_eq_take_drop_succ]
  exact (hr.cons _).trans ((ringPairs_cons l[e] _).trans (((ringPairs_rotate _ _).cons _).cons _))

end ScadVerif.Ring
