/-
Invariants of the ear-clipping loop of Model/Tri.lean (the model of scad_tree::triangulate).

`clipRun` is the loop with its ghost state explicit: it returns the emitted triangles as triples of (label, point)
vertices, and the residual polygon; the model's `clip` (the flat label list, as in the Rust code) is its projection
(`clip_eq`).  Every statement about a run instantiates the loop rule `clipRun_rule`; the two facts about cutting a
vertex out of a cycle (signed area, boundary edges) come from `Ring.ringPairs_eraseIdx`.  Strictly convex polygons
(`ConvexPos`): `convex_run`, carried to the 2D entry points by `convex_entry`.
-/
import Mathlib.Data.List.Perm.Basic
import ScadVerif.Lemmas.RealInst
import ScadVerif.Lemmas.Ring
import ScadVerif.Lemmas.TriScan
import ScadVerif.Lemmas.Fold
import ScadVerif.Model.Tri
import ScadVerif.Spec.Mesh
namespace ScadVerif.TriLemmas
open ScadVerif ScadVerif.Tri ScadVerif.Ring

section Generic
variable {α : Type} [Add α] [Sub α] [Mul α] [Div α] [Neg α] [OfNat α 0] [OfNat α 1] [Cmp α]

abbrev V (α : Type) := Nat × Pt2 α
abbrev Tri3 (α : Type) := V α × V α × V α

def vAt (poly : Poly α) (i : Nat) : V α := poly.getD i (0, ⟨0, 0⟩)
theorem idx_eq (poly : Poly α) (i : Nat) : idx poly i = (vAt poly i).1 := rfl
theorem pt_eq (poly : Poly α) (i : Nat) : pt poly i = (vAt poly i).2 := rfl

def earAt (poly : Poly α) (e : Nat) : Tri3 α :=
  (vAt poly (prevIdx poly.length e), vAt poly e, vAt poly (nextIdx poly.length e))

def clipRun : Nat → Poly α → Bool → List (Tri3 α) → List (Tri3 α) × Poly α
  | 0, poly, _, acc => (acc, poly)
  | fuel + 1, poly, ccw, acc =>
    if poly.length < 3 then (acc, poly) else
    match findEar poly ccw with
    | none => (acc, poly)
    | some e => clipRun fuel (poly.eraseIdx e) ccw (acc ++ [earAt poly e])

def triLabels (t : Tri3 α) : List Nat := [t.1.1, t.2.1.1, t.2.2.1]
def labels (ts : List (Tri3 α)) : List Nat := ts.flatMap triLabels

theorem labels_append (a b : List (Tri3 α)) : labels (a ++ b) = labels a ++ labels b := by
  simp [labels]

theorem clip_eq (fuel : Nat) (poly : Poly α) (ccw : Bool) (acc : List (Tri3 α)) :
    clip fuel poly ccw (labels acc) = labels (clipRun fuel poly ccw acc).1 := by
  induction fuel generalizing poly acc with
  | zero => rfl
  | succ f ih =>
    rw [clip, clipRun]
    split
    · rfl
    · cases h : findEar poly ccw with
      | none => rfl
      | some e => rw [← ih, labels_append]; rfl

theorem clip_nil (fuel : Nat) (poly : Poly α) (ccw : Bool) :
    clip fuel poly ccw [] = labels (clipRun fuel poly ccw []).1 := clip_eq fuel poly ccw []

/-- **the loop rule**: an invariant preserved by cutting any ear the scan can return holds at the end; with enough
fuel (`poly.length ≤ fuel + 2`: an iteration removes one vertex, the loop stops below three) it ends only below three
vertices or where the scan finds no ear -/
theorem clipRun_rule (Inv : List (Tri3 α) → Poly α → Prop) (ccw : Bool)
    (step : ∀ acc poly e, 3 ≤ poly.length → findEar poly ccw = some e → Inv acc poly →
      Inv (acc ++ [earAt poly e]) (poly.eraseIdx e))
    (fuel : Nat) (poly : Poly α) (acc : List (Tri3 α)) (h0 : Inv acc poly) :
    Inv (clipRun fuel poly ccw acc).1 (clipRun fuel poly ccw acc).2 ∧
      (poly.length ≤ fuel + 2 → (clipRun fuel poly ccw acc).2.length < 3 ∨
        findEar (clipRun fuel poly ccw acc).2 ccw = none) := by
  induction fuel generalizing poly acc with
  | zero => exact ⟨h0, fun hf => Or.inl (by simp only [clipRun]; omega)⟩
  | succ f ih =>
    simp only [clipRun]
    split
    · exact ⟨h0, fun _ => Or.inl ‹_›⟩
    · cases h : findEar poly ccw with
      | none => exact ⟨h0, fun _ => Or.inr h⟩
      | some e =>
        have hrec := ih _ _ (step acc poly e (by omega) h h0)
        refine ⟨hrec.1, fun hf => hrec.2 ?_⟩
        rw [List.length_eraseIdx_of_lt (findEar_some poly ccw e h).1]; omega

theorem clipRun_inv (Inv : List (Tri3 α) → Poly α → Prop) (ccw : Bool)
    (step : ∀ acc poly e, 3 ≤ poly.length → findEar poly ccw = some e → Inv acc poly →
      Inv (acc ++ [earAt poly e]) (poly.eraseIdx e))
    (fuel : Nat) (poly : Poly α) (acc : List (Tri3 α)) (h0 : Inv acc poly) :
    Inv (clipRun fuel poly ccw acc).1 (clipRun fuel poly ccw acc).2 :=
  (clipRun_rule Inv ccw step fuel poly acc h0).1

theorem isEar_orient (poly : Poly α) (ccw : Bool) (i : Nat) (h : isEar poly ccw i = true) :
    isCcw (pt poly (prevIdx poly.length i)) (pt poly i) (pt poly (nextIdx poly.length i)) = ccw :=
  ((isEar_iff poly ccw i).mp h).1

theorem prevIdx_lt (n i : Nat) (h : i < n) : prevIdx n i < n := by
  unfold prevIdx; split <;> omega
theorem nextIdx_lt (n i : Nat) (h : i < n) : nextIdx n i < n := by
  unfold nextIdx; split <;> omega

theorem vAt_mem (poly : Poly α) (i : Nat) (h : i < poly.length) : vAt poly i ∈ poly := by
  unfold vAt
  rw [List.getD_eq_getElem?_getD, List.getElem?_eq_getElem h]
  simp

theorem clipRun_count (fuel : Nat) (poly : Poly α) (ccw : Bool) (acc : List (Tri3 α)) :
    (clipRun fuel poly ccw acc).1.length + (clipRun fuel poly ccw acc).2.length =
      acc.length + poly.length := by
  refine clipRun_inv (fun a p => a.length + p.length = acc.length + poly.length) ccw ?_ fuel poly acc rfl
  intro a p e hlen hear hinv
  have he := (findEar_some p ccw e hear).1
  simp only [List.length_append, List.length_singleton, List.length_eraseIdx, he, if_true]
  omega

theorem clipRun_residual_ge (fuel : Nat) (poly : Poly α) (ccw : Bool) (acc : List (Tri3 α))
    (h : 2 ≤ poly.length) : 2 ≤ (clipRun fuel poly ccw acc).2.length := by
  refine clipRun_inv (fun _ p => 2 ≤ p.length) ccw ?_ fuel poly acc h
  intro a p e hlen hear _
  have he := (findEar_some p ccw e hear).1
  simp only [List.length_eraseIdx, he, if_true]; omega

theorem labels_length (ts : List (Tri3 α)) : (labels ts).length = 3 * ts.length := by
  rw [labels, flatMap_length_const ts triLabels 3 fun _ _ => rfl, Nat.mul_comm]

theorem clip_length (fuel : Nat) (poly : Poly α) (ccw : Bool) :
    (clip fuel poly ccw []).length = 3 * (poly.length - (clipRun fuel poly ccw []).2.length) := by
  have h := clipRun_count fuel poly ccw ([] : List (Tri3 α))
  rw [clip_nil, labels_length]
  simp only [List.length_nil, Nat.zero_add] at h
  omega

theorem complete_residual (poly : Poly α) (ccw : Bool) (hn : 2 ≤ poly.length)
    (hc : (clip poly.length poly ccw []).length = 3 * (poly.length - 2)) :
    (clipRun poly.length poly ccw []).2.length = 2 := by
  have h1 := clip_length poly.length poly ccw
  have h2 := clipRun_residual_ge poly.length poly ccw ([] : List (Tri3 α)) hn
  have h3 := clipRun_count poly.length poly ccw ([] : List (Tri3 α))
  rw [List.length_nil] at h3
  omega

theorem clipRun_mem (fuel : Nat) (poly : Poly α) (ccw : Bool) :
    (∀ t ∈ (clipRun fuel poly ccw []).1, t.1 ∈ poly ∧ t.2.1 ∈ poly ∧ t.2.2 ∈ poly) ∧
      (clipRun fuel poly ccw []).2.Sublist poly := by
  refine clipRun_inv (fun a p => (∀ t ∈ a, t.1 ∈ poly ∧ t.2.1 ∈ poly ∧ t.2.2 ∈ poly) ∧ p.Sublist poly)
    ccw ?_ fuel poly [] ⟨by simp, List.Sublist.refl _⟩
  intro a p e hlen hear ⟨h1, h2⟩
  have he := (findEar_some p ccw e hear).1
  exact ⟨List.forall_mem_append.mpr ⟨h1, List.forall_mem_singleton.mpr
      ⟨h2.subset (vAt_mem p _ (prevIdx_lt _ _ he)), h2.subset (vAt_mem p _ he),
        h2.subset (vAt_mem p _ (nextIdx_lt _ _ he))⟩⟩,
    (List.eraseIdx_sublist p e).trans h2⟩

theorem clipRun_orient (fuel : Nat) (poly : Poly α) (ccw : Bool) :
    ∀ t ∈ (clipRun fuel poly ccw []).1, isCcw t.1.2 t.2.1.2 t.2.2.2 = ccw := by
  refine clipRun_inv (fun a _ => ∀ t ∈ a, isCcw t.1.2 t.2.1.2 t.2.2.2 = ccw) ccw ?_ fuel poly []
    (by simp)
  intro a p e hlen hear h1
  exact List.forall_mem_append.mpr
    ⟨h1, List.forall_mem_singleton.mpr (isEar_orient p ccw e (findEar_some p ccw e hear).2.1)⟩

end Generic

/-! ### area conservation (exact arithmetic) -/
section Area
open ScadVerif.Spec

/-- the default of every `getD` on a point list, the one `Tri.pt` reads too (`pts_getD`, at every index) -/
def d0 : Pt2 ℝ := ⟨0, 0⟩
def cross2 (u v : Pt2 ℝ) : ℝ := u.x * v.y - v.x * u.y
theorem cross3_eq (a b c : Pt2 ℝ) : Spec.cross3 a b c = cross2 a b + cross2 b c - cross2 a c := by
  simp only [Spec.cross3, cross2]; ring
theorem tri_cross3_eq (a b c : Pt2 ℝ) : Tri.cross3 a b c = Spec.cross3 a b c := rfl

theorem area2_go (z : Pt2 ℝ) : ∀ l : List (Pt2 ℝ),
    area2.go z l = ((pairsTo l z).map fun p => cross2 p.1 p.2).sum
  | [] => by simp [area2.go, pairsTo]
  | [q] => by simp [area2.go, pairsTo, cross2]
  | a :: b :: rest => by simp [area2.go, pairsTo, cross2, area2_go z (b :: rest)]

/-- the shoelace formula -/
theorem area2_eq_ring (l : List (Pt2 ℝ)) : area2 l = ((ringPairs l).map fun p => cross2 p.1 p.2).sum := by
  cases l with
  | nil => simp [area2, ringPairs]
  | cons p0 rest => exact area2_go p0 (p0 :: rest)

theorem area2_eraseIdx (l : List (Pt2 ℝ)) (e : Nat) (hn : 3 ≤ l.length) (he : e < l.length) :
    area2 l = area2 (l.eraseIdx e) +
      Spec.cross3 (l.getD (prevIdx l.length e) d0) (l.getD e d0) (l.getD (nextIdx l.length e) d0) := by
  have h := ((ringPairs_eraseIdx d0 l e he).map fun p => cross2 p.1 p.2).sum_eq
  simp only [List.map_cons, List.sum_cons, ← area2_eq_ring] at h
  rw [cross3_eq]; linarith

/-- the polygon without its labels: `area2` and `ConvexPos` are stated on it -/
def pts (poly : Poly ℝ) : List (Pt2 ℝ) := poly.map (·.2)

theorem pts_getD (poly : Poly ℝ) (i : Nat) : (pts poly).getD i d0 = pt poly i := by
  simp only [pts, pt, List.getD_eq_getElem?_getD, List.getElem?_map]
  cases poly[i]? <;> rfl

theorem pts_length (poly : Poly ℝ) : (pts poly).length = poly.length := by simp [pts]

theorem pts_eraseIdx (poly : Poly ℝ) (e : Nat) : pts (poly.eraseIdx e) = (pts poly).eraseIdx e := by
  simp [pts, List.eraseIdx_map]
theorem pts_indexed (vs : List (Pt2 ℝ)) : pts (indexed vs) = vs := by
  unfold pts indexed
  rw [List.map_snd_zip]; simp
theorem pts_reverse (poly : Poly ℝ) : pts poly.reverse = (pts poly).reverse := List.map_reverse

def triArea2 (t : Tri3 ℝ) : ℝ := Spec.cross3 t.1.2 t.2.1.2 t.2.2.2

/-- **area conservation**, at every point of the run -/
theorem clipRun_area (fuel : Nat) (poly : Poly ℝ) (ccw : Bool) :
    area2 (pts poly) =
      ((clipRun fuel poly ccw []).1.map triArea2).sum + area2 (pts (clipRun fuel poly ccw []).2) := by
  refine clipRun_inv (fun a p => area2 (pts poly) = (a.map triArea2).sum + area2 (pts p)) ccw ?_
    fuel poly [] (by simp)
  intro a p e hlen hear hinv
  have he := (findEar_some p ccw e hear).1
  have := area2_eraseIdx (pts p) e (by rwa [pts_length]) (by rwa [pts_length])
  rw [hinv, this, pts_eraseIdx, pts_length]
  simp only [List.map_append, List.sum_append, List.map_cons, List.map_nil, List.sum_cons, List.sum_nil,
    triArea2, earAt, pts_getD, ← pt_eq]
  ring

theorem area2_short (l : List (Pt2 ℝ)) (h : l.length < 3) : area2 l = 0 := by
  match l, h with
  | [], _ => simp [area2]
  | [a], _ => simp [area2, area2.go]
  | [a, b], _ => simp [area2, area2.go]

end Area
/-! ### directed edges of the emitted triangles -/
abbrev Edge := Nat × Nat

def chainE : List Nat → List Edge
  | a :: b :: rest => (a, b) :: chainE (b :: rest)
  | _ => []
/-- the chain plus the closing pair, by position with default label 0.  On a non-empty list this is
`Ring.ringPairs` (`ringE_eq`); not on the empty one: `ringE [] = [(0, 0)]`, `ringPairs [] = []` -/
def ringE (l : List Nat) : List Edge := chainE l ++ [(l.getD (l.length - 1) 0, l.getD 0 0)]

theorem chainE_concat (z : Nat) : ∀ l : List Nat, l ≠ [] →
    chainE l ++ [(l.getD (l.length - 1) 0, z)] = pairsTo l z
  | [], h => absurd rfl h
  | [a], _ => rfl
  | a :: b :: rest, _ => congrArg ((a, b) :: ·) (chainE_concat z (b :: rest) (List.cons_ne_nil _ _))

theorem ringE_eq (l : List Nat) (h : l ≠ []) : ringE l = ringPairs l := by
  rw [ringE, chainE_concat _ l h, ringPairs_eq 0]
  cases l <;> rfl

theorem ringE_length (l : List Nat) : (ringE l).length = (chainE l).length + 1 := List.length_append

/-- the ring loses the two edges at `e` and gains the chord between its neighbours -/
theorem ringE_eraseIdx (l : List Nat) (e : Nat) (hn : 3 ≤ l.length) (he : e < l.length) :
    ((l.getD (prevIdx l.length e) 0, l.getD (nextIdx l.length e) 0) :: ringE l).Perm
      ((l.getD (prevIdx l.length e) 0, l.getD e 0) :: (l.getD e 0, l.getD (nextIdx l.length e) 0) ::
        ringE (l.eraseIdx e)) := by
  rw [ringE_eq l (List.ne_nil_of_length_pos (by omega)),
    ringE_eq _ (List.ne_nil_of_length_pos (by rw [List.length_eraseIdx_of_lt he]; omega))]
  exact ringPairs_eraseIdx 0 l e he


section Cert
set_option linter.unusedSectionVars false
variable {α : Type} [Add α] [Sub α] [Mul α] [Div α] [Neg α] [OfNat α 0] [OfNat α 1] [Cmp α]

/-- the labels without the points: the boundary of a polygon in the edge facts is `ringE (lab poly)` -/
def lab (poly : Poly α) : List Nat := poly.map (·.1)
def triEdges (t : Tri3 α) : List Edge := [(t.1.1, t.2.1.1), (t.2.1.1, t.2.2.1), (t.2.2.1, t.1.1)]
def runEdges (ts : List (Tri3 α)) : List Edge := ts.flatMap triEdges

theorem lab_getD (poly : Poly α) (i : Nat) : (lab poly).getD i 0 = (vAt poly i).1 := by
  simp only [lab, vAt, List.getD_eq_getElem?_getD, List.getElem?_map]
  cases poly[i]? <;> rfl
theorem lab_eraseIdx (poly : Poly α) (e : Nat) : lab (poly.eraseIdx e) = (lab poly).eraseIdx e := by
  simp [lab, List.eraseIdx_map]
theorem lab_length (poly : Poly α) : (lab poly).length = poly.length := by simp [lab]
theorem lab_indexed (vs : List (Pt2 α)) : lab (indexed vs) = List.range vs.length := by
  unfold lab indexed
  rw [List.map_fst_zip]; simp
theorem lab_reverse (poly : Poly α) : lab poly.reverse = (lab poly).reverse := List.map_reverse
theorem lab_indexed_nodup (vs : List (Pt2 α)) : (lab (indexed vs)).Nodup ∧ (lab (indexed vs).reverse).Nodup := by
  rw [lab_reverse, List.nodup_reverse, lab_indexed]
  exact ⟨List.nodup_range, List.nodup_range⟩

/-- **edge invariant of the loop**: the emitted triangles' edges and the boundary of what is left are the input
boundary plus diagonals, each diagonal in both directions -/
theorem clipRun_edges (fuel : Nat) (poly : Poly α) (ccw : Bool) :
    ∃ D : List Edge, (runEdges (clipRun fuel poly ccw []).1 ++ ringE (lab (clipRun fuel poly ccw []).2)).Perm
      (ringE (lab poly) ++ D ++ D.map Prod.swap) := by
  refine clipRun_inv (fun a p => ∃ D : List Edge, (runEdges a ++ ringE (lab p)).Perm
      (ringE (lab poly) ++ D ++ D.map Prod.swap)) ccw ?_ fuel poly [] ⟨[], by simp [runEdges]⟩
  intro a p e hlen hear ⟨D, hD⟩
  have he := (findEar_some p ccw e hear).1
  have hr := ringE_eraseIdx (lab p) e (by rw [lab_length]; exact hlen) (by rw [lab_length]; exact he)
  rw [lab_length] at hr
  -- p, n the neighbours of e: the ear adds (p,e), (e,n), (n,p); the ring trades (p,e), (e,n) for (p,n) (`hr`);
  -- so `D` grows by the chord (p,n) and `D.map swap` by (n,p)
  refine ⟨((lab p).getD (prevIdx p.length e) 0, (lab p).getD (nextIdx p.length e) 0) :: D, ?_⟩
  rw [List.perm_iff_count] at hD hr ⊢
  intro x
  have h1 := hD x
  have h2 := hr x
  simp only [runEdges, List.flatMap_append, List.flatMap_cons, List.flatMap_nil, List.append_nil, triEdges,
    earAt, ← lab_getD, lab_eraseIdx, List.count_append, List.count_cons, List.count_nil, List.map_cons,
    Prod.swap_prod_mk] at h1 h2 ⊢
  omega

end Cert

/-! ### convex polygons: the loop completes -/
/-- `x` has the sign of the winding `ccw`: `ConvexPos`, `convex_turn`, `convex_area` are stated once for both -/
def Oriented (ccw : Bool) (x : ℝ) : Prop := if ccw then 0 < x else x < 0

/-- strictly convex position: every triple in list order turns the way of `ccw` -/
def ConvexPos (ccw : Bool) (l : List (Pt2 ℝ)) : Prop :=
  ∀ i j k, i < j → j < k → k < l.length → Oriented ccw (Tri.cross3 (l.getD i d0) (l.getD j d0) (l.getD k d0))

theorem cross3_rot (a b c : Pt2 ℝ) : Tri.cross3 b c a = Tri.cross3 a b c := by
  simp only [Tri.cross3]; ring
theorem cross3_swap (a b c : Pt2 ℝ) : Tri.cross3 a c b = -Tri.cross3 a b c := by
  simp only [Tri.cross3]; ring
theorem cross3_rev (a b c : Pt2 ℝ) : Tri.cross3 c b a = -Tri.cross3 a b c := by
  rw [cross3_swap, cross3_rot, cross3_rot]

theorem Oriented.neg {ccw : Bool} {x : ℝ} (hx : Oriented ccw x) : Oriented (!ccw) (-x) := by
  cases ccw
  · exact neg_pos.mpr hx
  · exact neg_lt_zero.mpr hx

theorem Oriented.add {ccw : Bool} {x y : ℝ} (hx : Oriented ccw x) (hy : Oriented ccw y) : Oriented ccw (x + y) := by
  cases ccw
  · exact add_neg hx hy
  · exact add_pos hx hy

theorem isCcw_of_oriented (ccw : Bool) (a b c : Pt2 ℝ) (h : Oriented ccw (Tri.cross3 a b c)) :
    isCcw a b c = ccw := by
  cases ccw
  · exact decide_eq_false (not_lt.mpr (le_of_lt h))
  · exact decide_eq_true h

/-- a point strictly on the far side of the chord `a c` (seen from `b`) is not in triangle `a b c` -/
theorem inTriangle_false (ccw : Bool) (p a b c : Pt2 ℝ) (habc : Oriented ccw (Tri.cross3 a b c))
    (hp : Oriented ccw (Tri.cross3 c p a)) : inTriangle p a b c = false := by
  have hden : (b.y - c.y) * (a.x - c.x) + (c.x - b.x) * (a.y - c.y) = Tri.cross3 a b c := by
    simp only [Tri.cross3]; ring
  have hnb : (c.y - a.y) * (p.x - c.x) + (a.x - c.x) * (p.y - c.y) = -Tri.cross3 c p a := by
    simp only [Tri.cross3]; ring
  -- the second barycentric coordinate, -(cross3 c p a / cross3 a b c), is negative
  have hbeta : Tri.cross3 a b c ≠ 0 ∧ 1 / Tri.cross3 a b c * -Tri.cross3 c p a < 0 := by
    cases ccw
    · exact ⟨ne_of_lt habc, mul_neg_of_neg_of_pos (one_div_neg.mpr habc) (neg_pos.mpr hp)⟩
    · exact ⟨ne_of_gt habc, mul_neg_of_pos_of_neg (one_div_pos.mpr habc) (neg_lt_zero.mpr hp)⟩
  unfold inTriangle
  simp only [hden, hnb]
  rw [if_neg ((eqb_real _ _).not.mpr hbeta.1), if_pos ((ltb_real _ _).mpr hbeta.2)]
  split <;> rfl

/-- **a convex polygon turns its own way at every vertex**, the two wrap-around vertices included -/
theorem convex_turn (ccw : Bool) (l : List (Pt2 ℝ)) (hn : 3 ≤ l.length) (hc : ConvexPos ccw l) (i : Nat)
    (hi : i < l.length) :
    Oriented ccw (Tri.cross3 (l.getD (prevIdx l.length i) d0) (l.getD i d0) (l.getD (nextIdx l.length i) d0)) := by
  unfold prevIdx nextIdx
  by_cases h0 : i = 0
  · subst h0
    rw [if_pos rfl, if_neg (by omega), ← cross3_rot]
    exact hc 0 1 (l.length - 1) (by omega) (by omega) (by omega)
  · by_cases hl : i = l.length - 1
    · rw [if_neg h0, if_pos hl, cross3_rot]
      exact hc 0 (i - 1) i (by omega) (by omega) hi
    · rw [if_neg h0, if_neg hl]
      exact hc (i - 1) i (i + 1) (by omega) (by omega) (by omega)

theorem convex_isEar_zero (ccw : Bool) (poly : Poly ℝ) (hn : 3 ≤ poly.length) (hc : ConvexPos ccw (pts poly)) :
    isEar poly ccw 0 = true := by
  have hl := pts_length poly
  have hp : prevIdx poly.length 0 = poly.length - 1 := if_pos rfl
  have hx : nextIdx poly.length 0 = 1 := if_neg (by omega)
  have habc := convex_turn ccw (pts poly) (hl ▸ hn) hc 0 (by omega)
  rw [hl, hp, hx, pts_getD, pts_getD, pts_getD] at habc
  rw [isEar_iff, hp, hx]
  refine ⟨isCcw_of_oriented ccw _ _ _ habc, fun j h0 hj hjp hj1 => inTriangle_false ccw _ _ _ _ habc ?_⟩
  -- every other vertex lies beyond the chord from vertex 1 to the last vertex
  rw [← pts_getD, ← pts_getD, ← pts_getD]
  exact hc 1 j (poly.length - 1) (by omega) (by omega) (by omega)

theorem convex_findEar (ccw : Bool) (poly : Poly ℝ) (hn : 3 ≤ poly.length) (hc : ConvexPos ccw (pts poly)) :
    findEar poly ccw = some 0 := by
  have h := convex_isEar_zero ccw poly hn hc
  cases hp : poly with
  | nil => rw [hp] at hn; simp at hn
  | cons x xs =>
    rw [hp] at h
    simp [findEar, findIdxFrom, h]

theorem convex_tail (ccw : Bool) (l : List (Pt2 ℝ)) (hc : ConvexPos ccw l) : ConvexPos ccw (l.eraseIdx 0) := by
  cases l with
  | nil => exact hc
  | cons a t =>
    exact fun i j k hij hjk hk => hc (i + 1) (j + 1) (k + 1) (by omega) (by omega) (Nat.succ_lt_succ hk)

theorem convex_reverse (ccw : Bool) (vs : List (Pt2 ℝ)) (h : ConvexPos ccw vs) : ConvexPos (!ccw) vs.reverse := by
  intro i j k hij hjk hk
  have hk' : k < vs.length := by simpa using hk
  have g : ∀ m, m < vs.length → vs.reverse.getD m d0 = vs.getD (vs.length - 1 - m) d0 := by
    intro m hm
    simp only [List.getD_eq_getElem?_getD]
    rw [List.getElem?_reverse hm]
  rw [g i (by omega), g j (by omega), g k hk', ← neg_neg (Tri.cross3 _ _ _), ← cross3_rev]
  exact (h _ _ _ (by omega) (by omega) (by omega)).neg

/-- **the signed area of a convex polygon has the sign of its orientation**: cut vertex 0 and go on -/
theorem convex_area (ccw : Bool) (l : List (Pt2 ℝ)) (hn : 3 ≤ l.length) (hc : ConvexPos ccw l) :
    Oriented ccw (Spec.area2 l) := by
  induction l with
  | nil => cases hn
  | cons a t ih =>
    rw [area2_eraseIdx (a :: t) 0 hn (Nat.zero_lt_succ _)]
    have ht := convex_turn ccw (a :: t) hn hc 0 (Nat.zero_lt_succ _)
    by_cases h3 : t.length < 3
    · rw [List.eraseIdx_cons_zero, area2_short t h3, zero_add]; exact ht
    · exact (ih (Nat.le_of_not_lt h3) (convex_tail ccw _ hc)).add ht

theorem leftmost_lt (poly : Poly ℝ) (hn : 1 ≤ poly.length) : leftmost poly < poly.length := by
  unfold leftmost
  simp only []
  rw [foldIdx_eq (0, ⟨0, 0⟩)]
  -- the index kept is 0 or one the scan has visited
  refine foldl_range_inv (fun _ (st : Nat × Pt2 ℝ) => st.1 < poly.length) _ _ _ hn fun k st hk h => ?_
  simp only [Nat.zero_add]
  split
  · exact hk
  · exact h

/-- the reference orientation of a convex polygon is its own: `convex_turn` at the left-most vertex -/
theorem convex_refCcw (ccw : Bool) (poly : Poly ℝ) (hn : 3 ≤ poly.length) (hc : ConvexPos ccw (pts poly)) :
    refCcw poly = ccw := by
  have := convex_turn ccw (pts poly) (by rwa [pts_length]) hc (leftmost poly)
    (by rw [pts_length]; exact leftmost_lt poly (by omega))
  rw [pts_length, pts_getD, pts_getD, pts_getD] at this
  exact isCcw_of_oriented ccw _ _ _ this

/-! ### convex polygons: the output is a fan -/
/-- the fan from vertex `L` over the consecutive pairs of a list (all but the last pair) -/
def fanAux (L : V ℝ) : Poly ℝ → List (Tri3 ℝ)
  | a :: b :: c :: rest => (L, a, b) :: fanAux L (b :: c :: rest)
  | _ => []

theorem fanAux_short (L : V ℝ) : ∀ poly : Poly ℝ, poly.length < 3 → fanAux L poly = []
  | [], _ => rfl
  | [_], _ => rfl
  | [_, _], _ => rfl
  | _ :: _ :: _ :: _, h => absurd h (by simp)

theorem fanAux_step : ∀ poly : Poly ℝ, 3 ≤ poly.length →
    fanAux (vAt poly (poly.length - 1)) poly =
      earAt poly 0 :: fanAux (vAt (poly.eraseIdx 0) ((poly.eraseIdx 0).length - 1)) (poly.eraseIdx 0)
  -- by computation: the ear at 0 is (last, a, b), and the tail keeps its last vertex
  | _ :: _ :: _ :: _, _ => rfl

/-- **the loop on a convex polygon** cuts vertex 0 every time: it completes and emits the fan from the last vertex,
in order.  One invariant for both: the triangles so far, then the fan of what is left, are the fan of the input. -/
theorem convex_run (ccw : Bool) (fuel : Nat) (poly : Poly ℝ) (acc : List (Tri3 ℝ))
    (hc : ConvexPos ccw (pts poly)) (h2 : 2 ≤ poly.length) (hf : poly.length ≤ fuel + 2) :
    (clipRun fuel poly ccw acc).2.length = 2 ∧
      (clipRun fuel poly ccw acc).1 = acc ++ fanAux (vAt poly (poly.length - 1)) poly := by
  obtain ⟨⟨hc', h2', hfan⟩, hexit⟩ := clipRun_rule
    (fun a p => ConvexPos ccw (pts p) ∧ 2 ≤ p.length ∧
      a ++ fanAux (vAt p (p.length - 1)) p = acc ++ fanAux (vAt poly (poly.length - 1)) poly) ccw
    (by
      intro a p e hlen hear ⟨hc, _, hfan⟩
      obtain rfl : 0 = e := Option.some.inj ((convex_findEar ccw p hlen hc).symm.trans hear)
      refine ⟨by rw [pts_eraseIdx]; exact convex_tail ccw _ hc,
        by rw [List.length_eraseIdx_of_lt (by omega)]; omega, ?_⟩
      rw [← hfan, fanAux_step p hlen, List.append_assoc]; rfl)
    fuel poly acc ⟨hc, h2, rfl⟩
  have hlen : (clipRun fuel poly ccw acc).2.length = 2 := by
    rcases hexit hf with h | h
    · omega
    · by_contra hne
      rw [convex_findEar ccw _ (by omega) hc'] at h; cases h
  exact ⟨hlen, by rw [← hfan, fanAux_short _ _ (by omega), List.append_nil]⟩

theorem convex_run_complete (ccw : Bool) : ∀ (fuel : Nat) (poly : Poly ℝ) (acc : List (Tri3 ℝ)),
    ConvexPos ccw (pts poly) → 2 ≤ poly.length → poly.length ≤ fuel + 2 →
    (clipRun fuel poly ccw acc).2.length = 2 :=
  fun fuel poly acc hc h2 hf => (convex_run ccw fuel poly acc hc h2 hf).1

/-- **C03 on convex polygons**: `triangulate` emits exactly n-2 triangles -/
theorem triangulate_convex_complete (ccw : Bool) (poly : Poly ℝ) (hn : 3 ≤ poly.length)
    (hc : ConvexPos ccw (pts poly)) : (triangulate poly).length = 3 * (poly.length - 2) := by
  rw [triangulate, convex_refCcw ccw poly hn hc, clip_length,
    convex_run_complete ccw poly.length poly [] hc (by omega) (by omega)]

/-- **C03 on convex polygons, functionally**: the output is exactly the fan `(lₙ₋₁, lₖ, lₖ₊₁)`,
`k = 0 … n-3`, of the vertex labels -/
theorem triangulate_convex_fan (ccw : Bool) (poly : Poly ℝ) (hn : 3 ≤ poly.length) (hc : ConvexPos ccw (pts poly)) :
    triangulate poly = labels (fanAux (vAt poly (poly.length - 1)) poly) := by
  rw [triangulate, convex_refCcw ccw poly hn hc, clip_nil,
    (convex_run ccw poly.length poly [] hc (by omega) (by omega)).2, List.nil_append]

/-! ### convex outlines: the entry points -/
/-- either 2D entry point runs the loop on `poly`: the outline labelled by position, for `triangulate2d_rev` read
backwards -/
theorem convex_entry (ccw : Bool) {vs : List (Pt2 ℝ)} {out : List Nat} (hc : ConvexPos ccw vs)
    (h : triangulate2d vs = some out ∨ triangulate2dRev vs = some out) :
    ∃ c poly, out = triangulate poly ∧ poly.length = vs.length ∧ 3 ≤ poly.length ∧ ConvexPos c (pts poly) ∧
      (lab poly).Nodup := by
  rcases h with h | h
  · obtain ⟨hn, rfl⟩ := tri2d_eq h
    exact ⟨ccw, indexed vs, rfl, indexed_length vs, by rw [indexed_length]; omega, by rwa [pts_indexed],
      (lab_indexed_nodup vs).1⟩
  · obtain ⟨hn, rfl⟩ := tri2dRev_eq h
    have hl : (indexed vs).reverse.length = vs.length := by rw [List.length_reverse, indexed_length]
    exact ⟨!ccw, (indexed vs).reverse, rfl, hl, by omega,
      by rw [pts_reverse, pts_indexed]; exact convex_reverse ccw vs hc, (lab_indexed_nodup vs).2⟩

/-- **C03 on convex polygons, per output**: either entry point returns exactly n-2 triangles -/
theorem convex_complete2d (ccw : Bool) {vs : List (Pt2 ℝ)} {out : List Nat} (hc : ConvexPos ccw vs)
    (h : triangulate2d vs = some out ∨ triangulate2dRev vs = some out) : out.length = 3 * (vs.length - 2) := by
  obtain ⟨c, poly, rfl, hl, hn, hc', -⟩ := convex_entry ccw hc h
  exact hl ▸ triangulate_convex_complete c poly hn hc'

end ScadVerif.TriLemmas
