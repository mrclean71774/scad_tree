/- What the indexed list combinators of Model/Tri.lean compute, and what its entry points return. -/
import ScadVerif.Model.Tri
namespace ScadVerif.Tri
variable {α : Type} [Add α] [Sub α] [Mul α] [Div α] [Neg α] [OfNat α 0] [OfNat α 1] [Cmp α]

theorem findIdxFrom_some {β : Type} (g : Nat → Bool) (l : List β) (k e : Nat)
    (h : findIdxFrom l k (fun i _ => g i) = some e) :
    k ≤ e ∧ e < k + l.length ∧ g e = true ∧ ∀ j, k ≤ j → j < e → g j = false := by
  induction l generalizing k with
  | nil => simp [findIdxFrom] at h
  | cons x xs ih =>
    simp only [findIdxFrom] at h
    split at h
    · rename_i hg
      injection h with h; subst h
      exact ⟨Nat.le_refl _, by simp, hg, fun j h1 h2 => by omega⟩
    · rename_i hg
      obtain ⟨h1, h2, h3, h4⟩ := ih (k + 1) h
      refine ⟨by omega, by simp only [List.length_cons]; omega, h3, fun j hj1 hj2 => ?_⟩
      by_cases hjk : j = k
      · subst hjk; simpa using hg
      · exact h4 j (by omega) hj2

theorem findEar_some (poly : Poly α) (ccw : Bool) (e : Nat) (h : findEar poly ccw = some e) :
    e < poly.length ∧ isEar poly ccw e = true ∧ ∀ j, j < e → isEar poly ccw j = false := by
  obtain ⟨_, h2, h3, h4⟩ := findIdxFrom_some (fun i => isEar poly ccw i) poly 0 e h
  exact ⟨by omega, h3, fun j hj => h4 j (Nat.zero_le _) hj⟩

/-- by position, as the transcribed index loops read them -/
theorem foldIdx_eq {β γ : Type} (d : β) (f : γ → Nat → β → γ) :
    ∀ (l : List β) (k : Nat) (acc : γ),
      foldIdx l k f acc = (List.range l.length).foldl (fun acc j => f acc (k + j) (l.getD j d)) acc
  | [], _, _ => rfl
  | x :: xs, k, acc => by
    rw [foldIdx, foldIdx_eq d f xs (k + 1), List.length_cons, List.range_succ_eq_map, List.foldl_cons, List.foldl_map]
    simp only [Nat.add_zero, List.getD_cons_zero, List.getD_cons_succ, Nat.add_assoc, Nat.add_comm 1]

theorem anyIdx_eq {β : Type} (d : β) (f : Nat → β → Bool) :
    ∀ (l : List β) (k : Nat), anyIdx l k f = (List.range l.length).any (fun j => f (k + j) (l.getD j d))
  | [], _ => rfl
  | x :: xs, k => by
    rw [anyIdx, anyIdx_eq d f xs (k + 1), List.length_cons, List.range_succ_eq_map, List.any_cons, List.any_map]
    simp only [Function.comp_def, Nat.add_zero, List.getD_cons_zero, List.getD_cons_succ, Nat.add_assoc, Nat.add_comm 1]

theorem isEar_iff (poly : Poly α) (ccw : Bool) (i : Nat) :
    isEar poly ccw i = true ↔
      isCcw (pt poly (prevIdx poly.length i)) (pt poly i) (pt poly (nextIdx poly.length i)) = ccw ∧
      ∀ j, i < j → j < poly.length → j ≠ prevIdx poly.length i → j ≠ nextIdx poly.length i →
        inTriangle (pt poly j) (pt poly (prevIdx poly.length i)) (pt poly i) (pt poly (nextIdx poly.length i))
          = false := by
  unfold isEar
  simp only [anyIdx_eq ((0, ⟨0, 0⟩) : Nat × Pt2 α), Nat.zero_add]
  split
  · rename_i hne
    exact ⟨fun h => Bool.noConfusion h, fun h => absurd h.1 (bne_iff_ne.mp hne)⟩
  · rename_i hne
    simp only [bne_iff_ne, ne_eq, Decidable.not_not] at hne
    simp only [hne, true_and, Bool.not_eq_true', List.any_eq_false, List.mem_range, Bool.and_eq_true,
      decide_eq_true_eq, bne_iff_ne, ne_eq, not_and, Bool.not_eq_true]
    exact ⟨fun h j hij hj hp hn => h j hj ⟨⟨hij, hp⟩, hn⟩, fun h j hj ⟨⟨hij, hp⟩, hn⟩ => h j hij hj hp hn⟩

theorem indexed_length {β : Type} (vs : List (Pt2 β)) : (indexed vs).length = vs.length := by simp [indexed]

/-! An entry point's `assert!` becomes the conjunct `3 < vs.length` (`Option.ite_none_right_eq_some`). -/
theorem tri2d_eq {vs : List (Pt2 α)} {out : List Nat} (h : triangulate2d vs = some out) :
    3 < vs.length ∧ out = triangulate (indexed vs) := by
  obtain ⟨hn, h⟩ := Option.ite_none_right_eq_some.mp h
  exact ⟨hn, (Option.some.inj h).symm⟩
theorem tri2dRev_eq {vs : List (Pt2 α)} {out : List Nat} (h : triangulate2dRev vs = some out) :
    3 < vs.length ∧ out = triangulate (indexed vs).reverse := by
  obtain ⟨hn, h⟩ := Option.ite_none_right_eq_some.mp h
  exact ⟨hn, (Option.some.inj h).symm⟩
/-- the 3D entry points are the 2D ones on the projected ring -/
theorem tri3d_eq [HasAbs α] {vs : List (Pt3 α)} {nml : Pt3 α} {out : List Nat} (h : triangulate3d vs nml = some out) :
    triangulate2d (vs.map (project (classify nml))) = some out := by
  obtain ⟨hn, h⟩ := Option.ite_none_right_eq_some.mp h
  rw [triangulate2d, if_pos (by rwa [List.length_map])]
  split at h
  · cases h
  · exact h
theorem tri3dRev_eq [HasAbs α] {vs : List (Pt3 α)} {nml : Pt3 α} {out : List Nat} (h : triangulate3dRev vs nml = some out) :
    triangulate2dRev (vs.map (project (classify nml))) = some out := by
  obtain ⟨hn, h⟩ := Option.ite_none_right_eq_some.mp h
  rw [triangulate2dRev, if_pos (by rwa [List.length_map])]
  split at h
  · cases h
  · exact h

end ScadVerif.Tri
