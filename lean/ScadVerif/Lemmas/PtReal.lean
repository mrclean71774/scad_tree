/- The tactic `mt4_ext`; length and normalisation of points over ℝ. -/
import ScadVerif.Lemmas.RealInst
import ScadVerif.Model.Mt4
namespace ScadVerif
open Real

/-- Unfolding precedes `ext`: after it, each of the sixteen goals would unfold the whole product again. -/
macro "mt4_ext" "[" defs:Lean.Parser.Tactic.simpLemma,* "]" : tactic => `(tactic|
  (simp only [Mt4.mul, Mt4.mulVec, Mt4.transposed, Pt4.dot4, $defs,*]
   ext <;> dsimp only <;> ring))

section Ring
variable {α : Type} [CommRing α]
theorem Pt3.len2_eq (a : Pt3 α) : a.len2 = a.x ^ 2 + a.y ^ 2 + a.z ^ 2 := by
  simp only [Pt3.len2, Pt3.dot]; ring
theorem Pt2.len2_eq (a : Pt2 α) : a.len2 = a.x ^ 2 + a.y ^ 2 := by
  simp only [Pt2.len2, Pt2.dot]; ring
end Ring

theorem Pt3.len2_nonneg (a : Pt3 ℝ) : 0 ≤ a.len2 := by rw [Pt3.len2_eq]; positivity
theorem Pt3.len_sq (a : Pt3 ℝ) : a.len ^ 2 = a.len2 := by
  simp [Pt3.len, Real.sq_sqrt (Pt3.len2_nonneg a)]
theorem Pt3.len2_pos {a : Pt3 ℝ} (h : a ≠ ⟨0, 0, 0⟩) : 0 < a.len2 := by
  rw [Ne, Pt3.ext_iff, not_and_or, not_and_or] at h
  rw [Pt3.len2_eq]
  rcases h with h | h | h <;> positivity
theorem Pt3.len_pos {a : Pt3 ℝ} (h : a ≠ ⟨0, 0, 0⟩) : 0 < a.len := by
  simpa [Pt3.len] using Real.sqrt_pos.mpr (Pt3.len2_pos h)
theorem Pt3.normalized_len2 {a : Pt3 ℝ} (h : a ≠ ⟨0, 0, 0⟩) : a.normalized.len2 = 1 := by
  rw [Pt3.len2_eq]
  simp only [Pt3.normalized]
  rw [div_pow, div_pow, div_pow, ← add_div, ← add_div, ← Pt3.len2_eq, ← Pt3.len_sq,
    div_self (pow_ne_zero 2 (Pt3.len_pos h).ne')]
theorem Pt3.normalized_comp (a : Pt3 ℝ) :
    a.normalized = ⟨a.x / a.len, a.y / a.len, a.z / a.len⟩ := rfl

theorem Pt3.normalized_dot (a b : Pt3 ℝ) : a.normalized.dot b = a.dot b / a.len := by
  simp only [Pt3.normalized_comp, Pt3.dot]; ring

theorem Pt2.len2_nonneg (a : Pt2 ℝ) : 0 ≤ a.len2 := by rw [Pt2.len2_eq]; positivity
theorem Pt2.len_sq (a : Pt2 ℝ) : a.len ^ 2 = a.len2 := by
  simp [Pt2.len, Real.sq_sqrt (Pt2.len2_nonneg a)]
theorem Pt2.len2_pos {a : Pt2 ℝ} (h : a ≠ ⟨0, 0⟩) : 0 < a.len2 := by
  rw [Ne, Pt2.ext_iff, not_and_or] at h
  rw [Pt2.len2_eq]
  rcases h with h | h <;> positivity
theorem Pt2.len_pos {a : Pt2 ℝ} (h : a ≠ ⟨0, 0⟩) : 0 < a.len := by
  simpa [Pt2.len] using Real.sqrt_pos.mpr (Pt2.len2_pos h)
theorem Pt2.normalized_len2 {a : Pt2 ℝ} (h : a ≠ ⟨0, 0⟩) : a.normalized.len2 = 1 := by
  rw [Pt2.len2_eq]
  simp only [Pt2.normalized]
  rw [div_pow, div_pow, ← add_div, ← Pt2.len2_eq, ← Pt2.len_sq, div_self (pow_ne_zero 2 (Pt2.len_pos h).ne')]

end ScadVerif
