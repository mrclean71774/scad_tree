/-
The thread mesh of `threaded_cylinder` is a closed, consistently oriented surface, for every step count and both
hands.  Faces: two start triangles on ring 0, eight per step between rings k and k+1, two end triangles on the last
ring; ring k has vertices 4k … 4k+3, its section traversed 0 → 1 → 3 → 2 → 0.  The left-handed mesh is the
right-handed one with every face reversed (`threadFaces_true`), so only the right hand (`_false`) is analysed:
block-level facts are decided at offset 0 and carried by `shift`.  Closedness is composed in the patch convention of
Lemmas/MeshLemmas.lean (`X ++ P.map Prod.swap ++ Q`: patch `X` from rim `P` to rim `Q`); ring k's rim is
`(cyc o).map Prod.swap` at vertex offset `o = 4k`.
-/
import ScadVerif.Lemmas.MeshLemmas
import ScadVerif.Lemmas.ThreadLemmas
namespace ScadVerif.ThreadClosed
open ScadVerif ScadVerif.Spec ScadVerif.Thread ScadVerif.MeshLemmas ScadVerif.ThreadLemmas

def body (left : Bool) (k : Nat) : List (List Nat) := (List.range k).flatMap fun j => stepFaces left (j * 4)
def threadFaces (left : Bool) (n : Nat) : List (List Nat) :=
  startFaces left ++ body left (n - 1) ++ endFaces left ((n - 2) * 4)

theorem body_succ (left : Bool) (k : Nat) : body left (k + 1) = body left k ++ stepFaces left (k * 4) := by
  simp [body, List.range_succ]

/-! directed edges of the step (`E0`), start (`S0`), end (`T0`) blocks at offset 0 -/
def E0 : List Edge := allEdges (stepFaces false 0)
def S0 (left : Bool) : List Edge := allEdges (startFaces left)
def T0 : List Edge := allEdges (endFaces false 0)

theorem step_edges (o : Nat) : allEdges (stepFaces false o) = E0.map (shift o) := by
  simp [E0, stepFaces, allEdges, faceEdges_tri, shift]
theorem end_edges (o : Nat) : allEdges (endFaces false o) = T0.map (shift o) := by
  simp [T0, endFaces, allEdges, faceEdges_tri, shift]

def cyc0 : List Edge := [(0, 1), (1, 3), (3, 2), (2, 0)]
def cyc (o : Nat) : List Edge := cyc0.map (shift o)
/-- edges between consecutive rings, one direction each -/
def X0 : List Edge := [(1, 5), (5, 3), (3, 7), (0, 4), (4, 1), (2, 6), (6, 0), (7, 2)]

theorem cyc_succ (o : Nat) : cyc (o + 4) = (cyc0.map (shift 4)).map (shift o) := by
  rw [shift_shift, cyc, Nat.add_comm]

/-- right-handed step at offset 0: lower ring backwards, upper ring forwards, the rest both ways -/
theorem E0_false_perm :
    E0.Perm (cyc0.map Prod.swap ++ cyc0.map (shift 4) ++ X0 ++ X0.map Prod.swap) := by decide
theorem S0_false_perm : (S0 false).Perm (cyc0 ++ [(1, 2)] ++ [(1, 2)].map Prod.swap) := by decide
theorem T0_false_perm :
    T0.Perm ((cyc0.map (shift 4)).map Prod.swap ++ [(5, 6)] ++ [(5, 6)].map Prod.swap) := by decide

theorem step_false_perm (o : Nat) : (allEdges (stepFaces false o)).Perm
    ((cyc o).map Prod.swap ++ cyc (o + 4) ++ X0.map (shift o) ++ (X0.map (shift o)).map Prod.swap) := by
  rw [step_edges, cyc_succ]
  refine (E0_false_perm.map (shift o)).trans ?_
  simp only [List.map_append, cyc, shift_swap]
  exact List.Perm.refl _

/-- a step is a patch from the ring below to the one above; rims are read backwards, whence the double `swap` on `P` -/
theorem step_closed (j : Nat) : EdgeClosed (allEdges (stepFaces false (j * 4)) ++
    ((cyc (j * 4)).map Prod.swap).map Prod.swap ++ (cyc ((j + 1) * 4)).map Prod.swap) := by
  have h := EdgeClosed.of_tiles (step_false_perm (j * 4))
  rwa [List.map_append, ← List.append_assoc, ← Nat.succ_mul] at h

theorem startBody_closed : ∀ k,
    EdgeClosed (allEdges (startFaces false ++ body false k) ++ (cyc (k * 4)).map Prod.swap) := fun k => by
  -- the start cap as a patch from the empty rim to ring 0, to compose with the chain of steps
  have hs : EdgeClosed (allEdges (startFaces false) ++ ([] : List Edge).map Prod.swap ++
      (cyc (0 * 4)).map Prod.swap) := by
    simpa [cyc, shift, cyc0, S0] using EdgeClosed.of_tiles S0_false_perm
  have := hs.trans (chain_closed _ (fun j => (cyc (j * 4)).map Prod.swap) step_closed k)
  rwa [List.map_nil, List.append_nil, ← allEdges_flatMap, ← allEdges_append] at this

theorem threadFaces_false_closed (n : Nat) (hn : 2 ≤ n) : EdgeClosed (allEdges (threadFaces false n)) := by
  have he : EdgeClosed (allEdges (endFaces false ((n - 2) * 4)) ++
      ((cyc ((n - 1) * 4)).map Prod.swap).map Prod.swap) := by
    have := (EdgeClosed.of_tiles T0_false_perm).map_shift ((n - 2) * 4)
    rwa [List.map_append, ← end_edges, ← shift_swap, ← shift_swap, ← cyc_succ, ← Nat.succ_mul,
      show (n - 2).succ = n - 1 by omega] at this
  -- start cap and body: a patch from the empty rim to the last ring; `caps` closes it with the empty cap
  -- (`EdgeClosed ([] ++ [])` unfolds to `[].Perm []`) and the end cap
  have hb : EdgeClosed (allEdges (startFaces false ++ body false (n - 1)) ++ ([] : List Edge).map Prod.swap ++
      (cyc ((n - 1) * 4)).map Prod.swap) := by simpa using startBody_closed (n - 1)
  have := hb.caps (List.Perm.refl _ : EdgeClosed ([] ++ [])) he
  rwa [List.nil_append, ← allEdges_append] at this

theorem threadFaces_true (n : Nat) : threadFaces true n = (threadFaces false n).map List.reverse := by
  simp only [threadFaces, body, List.map_append, List.map_flatMap]
  rfl

theorem threadFaces_true_perm (n : Nat) :
    (allEdges (threadFaces true n)).Perm ((allEdges (threadFaces false n)).map Prod.swap) :=
  threadFaces_true n ▸ allEdges_reverse _

theorem threadFaces_closed (left : Bool) (n : Nat) (hn : 2 ≤ n) : EdgeClosed (allEdges (threadFaces left n)) := by
  cases left
  · exact threadFaces_false_closed n hn
  · exact (threadFaces_false_closed n hn).map_swap.perm (threadFaces_true_perm n).symm

/-- proper triangles on the vertices `l ≤ v < h` -/
abbrev Block (blk : List (List Nat)) (l h : Nat) : Prop :=
  ∀ f ∈ blk, f.length = 3 ∧ (∀ v ∈ f, l ≤ v ∧ v < h) ∧ f.Nodup

theorem Block.shift {blk : List (List Nat)} {l h : Nat} (hb : Block blk l h) (o : Nat) :
    Block (blk.map (List.map (· + o))) (l + o) (h + o) := by
  intro f hf
  obtain ⟨g, hg, rfl⟩ := List.mem_map.mp hf
  obtain ⟨h1, h2, h3⟩ := hb g hg
  refine ⟨by rw [List.length_map, h1], fun v hv => ?_, h3.map fun a b h => Nat.add_right_cancel h⟩
  obtain ⟨w, hw, rfl⟩ := List.mem_map.mp hv
  have := h2 w hw
  omega

theorem Block.mono {blk : List (List Nat)} {l h l' h' : Nat} (hb : Block blk l h) (hl : l' ≤ l) (hh : h ≤ h') :
    Block blk l' h' := fun f hf =>
  have ⟨h1, h2, h3⟩ := hb f hf
  ⟨h1, fun v hv => ⟨hl.trans (h2 v hv).1, (h2 v hv).2.trans_le hh⟩, h3⟩

/-- blocks on separate vertex ranges share no edge -/
theorem Block.sep {A B : List (List Nat)} {lA hA lB hB : Nat} (a : Block A lA hA) (b : Block B lB hB)
    (h : hA ≤ lB) : (allEdges A).Disjoint (allEdges B) := fun e h1 h2 => by
  obtain ⟨f, hf, hv, -⟩ := mem_allEdges A e h1
  obtain ⟨g, hg, hw, -⟩ := mem_allEdges B e h2
  have := ((a f hf).2.1 _ hv).2
  have := ((b g hg).2.1 _ hw).1
  omega

theorem stepFaces_shift (left : Bool) (o : Nat) : stepFaces left o = (stepFaces left 0).map (List.map (· + o)) := by
  cases left <;> simp [stepFaces]
theorem endFaces_shift (left : Bool) (o : Nat) : endFaces left o = (endFaces left 0).map (List.map (· + o)) := by
  cases left <;> simp [endFaces]

theorem stepFaces_block (left : Bool) (o : Nat) : Block (stepFaces left o) (0 + o) (8 + o) :=
  stepFaces_shift left o ▸ Block.shift (by cases left <;> decide) o
theorem endFaces_block (left : Bool) (o : Nat) : Block (endFaces left o) (4 + o) (8 + o) :=
  endFaces_shift left o ▸ Block.shift (by cases left <;> decide) o
theorem startFaces_block (left : Bool) : Block (startFaces left) 0 4 := by
  cases left <;> decide

theorem threadFaces_block (left : Bool) (n : Nat) (hn : 2 ≤ n) : Block (threadFaces left n) 0 (4 * n) := by
  intro f hf
  rcases List.mem_append.mp hf with hf | hf
  · rcases List.mem_append.mp hf with hf | hf
    · exact (startFaces_block left).mono (Nat.le_refl 0) (by omega) f hf
    · obtain ⟨j, hj, hfj⟩ := List.mem_flatMap.mp hf
      have := List.mem_range.mp hj
      exact (stepFaces_block left _).mono (Nat.zero_le _) (by omega) f hfj
  · exact (endFaces_block left _).mono (Nat.zero_le _) (by omega) f hf

theorem E0_nodup : E0.Nodup := by decide
theorem S0_nodup : (S0 false).Nodup := by decide
theorem T0_nodup : T0.Nodup := by decide
/-- consecutive steps share a ring but no directed edge -/
theorem E0_shift4_disjoint : E0.Disjoint (E0.map (shift 4)) := List.disjoint_left.mpr (by decide)
theorem E0_S0_disjoint : E0.Disjoint (S0 false) := List.disjoint_left.mpr (by decide)
theorem E0_T0_disjoint : E0.Disjoint T0 := List.disjoint_left.mpr (by decide)

/-- two steps: adjacent by the block at offset 0, farther apart by their vertex ranges -/
theorem steps_disjoint (j k : Nat) (hjk : j < k) :
    (allEdges (stepFaces false (j * 4))).Disjoint (allEdges (stepFaces false (k * 4))) := by
  by_cases hk : k = j + 1
  · rw [hk, step_edges, step_edges, Nat.succ_mul, Nat.add_comm (j * 4), ← shift_shift]
    exact E0_shift4_disjoint.map (shift_inj _)
  · exact (stepFaces_block false _).sep (stepFaces_block false _) (by omega)

theorem body_false_nodup (k : Nat) : (allEdges (body false k)).Nodup := by
  unfold body
  rw [allEdges_flatMap, List.nodup_flatMap]
  exact ⟨fun j _ => step_edges _ ▸ E0_nodup.map (shift_inj _),
    List.pairwise_lt_range.imp fun hjk => steps_disjoint _ _ hjk⟩

theorem body_disjoint (k : Nat) (l : List Edge) (h : ∀ j < k, (allEdges (stepFaces false (j * 4))).Disjoint l) :
    (allEdges (body false k)).Disjoint l := fun e he => by
  unfold body at he
  rw [allEdges_flatMap, List.mem_flatMap] at he
  obtain ⟨j, hj, he⟩ := he
  exact h j (List.mem_range.mp hj) he

theorem threadFaces_false_nodup (n : Nat) (hn : 2 ≤ n) : (allEdges (threadFaces false n)).Nodup := by
  unfold threadFaces
  rw [allEdges_append, allEdges_append]
  refine (S0_nodup.append (body_false_nodup _) (body_disjoint _ _ fun j _ => ?_).symm).append
    (end_edges _ ▸ T0_nodup.map (shift_inj _))
    (List.disjoint_append_left.mpr ⟨?_, body_disjoint _ _ fun j hj => ?_⟩)
  · -- step j against the start: at offset 0 for j = 0, else by vertex ranges
    rcases j with _ | j
    · exact E0_S0_disjoint
    · exact ((startFaces_block false).sep (stepFaces_block false _) (by omega)).symm
  · exact (startFaces_block false).sep (endFaces_block false _) (by omega)
  · -- step j against the end: at offset 0 for the last step, else by vertex ranges
    by_cases hjn : j = n - 2
    · rw [hjn, step_edges, end_edges]
      exact E0_T0_disjoint.map (shift_inj _)
    · exact (stepFaces_block false _).sep (endFaces_block false _) (by omega)

theorem threadFaces_nodup (left : Bool) (n : Nat) (hn : 2 ≤ n) : (allEdges (threadFaces left n)).Nodup := by
  cases left
  · exact threadFaces_false_nodup n hn
  · exact (threadFaces_true_perm n).nodup_iff.mpr ((threadFaces_false_nodup n hn).map Prod.swap_injective)

/-- **the face list of a thread mesh of `n ≥ 2` rings is a closed, consistently oriented surface** (the Boolean the
oracle evaluates) -/
theorem threadFaces_closedOriented (left : Bool) (n : Nat) (hn : 2 ≤ n) :
    closedOriented (4 * n) (threadFaces left n) = true :=
  closedOriented_of (4 * n) _
    (fun f hf => have ⟨h1, h2, h3⟩ := threadFaces_block left n hn f hf; ⟨h1.ge, fun v hv => (h2 v hv).2, h3⟩)
    (threadFaces_nodup left n hn) (threadFaces_closed left n hn)

theorem threadMesh_faces (dMin dMaj pitch length : ℝ) (segments : Nat) (li lo : ℝ) (left : Bool) (m : Mesh ℝ)
    (h : threadMesh dMin dMaj pitch length segments li lo left = some m) :
    ∃ n, 2 ≤ n ∧ m.faces = threadFaces left n ∧ m.points.length = 4 * n := by
  obtain ⟨hn, fs, hfs, hm⟩ := threadMesh_ind h rfl (fun k _ fs => fs = startFaces left ++ body left k)
    (fun _ _ => (List.append_nil _).symm)
    (fun k _ _ _ _ _ hfs => by rw [hfs, body_succ, List.append_assoc])
  exact ⟨_, hn, by rw [hm, hfs]; rfl, (threadMesh_points dMin dMaj pitch length segments li lo left m h _ rfl).2.1⟩

theorem threadMesh_shape (dMin dMaj pitch length : ℝ) (segments : Nat) (li lo : ℝ) (left : Bool) (m : Mesh ℝ)
    (h : threadMesh dMin dMaj pitch length segments li lo left = some m) :
    ∃ nSteps, 2 ≤ nSteps ∧ MeshShape m nSteps dMin := by
  obtain ⟨n, hn, hf, hp⟩ := threadMesh_faces dMin dMaj pitch length segments li lo left m h
  obtain ⟨-, -, h0, h2, -⟩ := threadMesh_points dMin dMaj pitch length segments li lo left m h _ rfl
  refine ⟨n, hn, hp, ?_, fun f hf' => ?_, fun f hf' v hv => ?_, by simp [h0], by simpa using h2⟩
  · have hs : (startFaces left).length = 2 := by cases left <;> rfl
    have he : ∀ o, (endFaces left o).length = 2 := fun o => by cases left <;> rfl
    have hb : (body left (n - 1)).length = (n - 1) * 8 := by
      rw [body, flatMap_length_const _ _ 8 fun j _ => by cases left <;> rfl, List.length_range]
    simp only [hf, threadFaces, List.length_append, hb, hs, he]
    omega
  · exact (threadFaces_block left _ hn f (hf ▸ hf')).1
  · exact hp ▸ ((threadFaces_block left _ hn f (hf ▸ hf')).2.1 v hv).2

/-- **every thread mesh is a closed, consistently oriented surface**, whenever the builder returns one -/
theorem threadMesh_closedOriented (dMin dMaj pitch length : ℝ) (segments : Nat) (li lo : ℝ) (left : Bool)
    (m : Mesh ℝ) (h : threadMesh dMin dMaj pitch length segments li lo left = some m) :
    closedOriented m.points.length m.faces = true := by
  obtain ⟨n, hn, hf, hp⟩ := threadMesh_faces dMin dMaj pitch length segments li lo left m h
  rw [hf, hp]
  exact threadFaces_closedOriented left n hn

end ScadVerif.ThreadClosed
