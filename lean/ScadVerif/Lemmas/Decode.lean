/-
Parts of `decode_header` (Props/C02.lean).  `Slots`: a header's arguments as every name the call may write, each with
the value written if any; names are closed terms, so `bindArgs` and `Env.get` on it go by evaluation.
-/
import ScadVerif.Lemmas.Parser
namespace ScadVerif.DecodeLemmas
open ScadVerif ScadVerif.Spec ScadVerif.ParserLemmas

theorem readNat_natDigits (n : Nat) (h : exactInDouble n = true) : readNat (natDigits n) = some n := by
  have hne : (natDigits n).isEmpty = false := by
    simp [natDigits, Nat.toDigits_ne_nil]
  have hf : (natDigits n).foldl (fun a c => a * 10 + (c.toNat - '0'.toNat)) 0 = n := by
    simpa [Nat.ofDigitChars_eq_foldl, Nat.mul_comm, natDigits] using
      Nat.ofDigitChars_toDigits (b := 10) (n := n) (by decide) (by decide)
  simp only [readNat, hne, natDigits_all_isDigit n, Bool.not_true, Bool.or_self, Bool.false_eq_true, if_false, hf, h,
    if_true]

section
variable {ν : Type} (showNum : ν → List Char) (readNum : List Char → Option ν)
variable (hread : ∀ x, readNum (showNum x) = some x)
include hread

theorem vNum_back (x : ν) : vNum? readNum (toVal (vNum showNum x)) = some x := by
  simp [vNum, toVal, vNum?, hread]
omit hread in
theorem vNat_back (n : Nat) (h : exactInDouble n = true) : vNat? (toVal (vNat n)) = some n := by
  simp [vNat, toVal, vNat?, readNat_natDigits n h]
theorem vPt2_back (p : Pt2 ν) : vPt2? readNum (toVal (vPt2 showNum p)) = some p := by
  simp [vPt2, toVal, toVals, vPt2?, vNum_back showNum readNum hread]
theorem vPt3_back (p : Pt3 ν) : vPt3? readNum (toVal (vPt3 showNum p)) = some p := by
  simp [vPt3, toVal, toVals, vPt3?, vNum_back showNum readNum hread]
theorem vPt4_back (p : Pt4 ν) : vPt4? readNum (toVal (vPt4 showNum p)) = some p := by
  simp [vPt4, toVal, toVals, vPt4?, vNum_back showNum readNum hread]

omit hread in
theorem toVals_eq_map (l : List Value) : toVals l = l.map toVal := by
  induction l with
  | nil => rfl
  | cons a t ih => simp [toVals, ih]

omit hread in
theorem mapM_back {α β : Type} (g : α → Option β) (f : β → α) (l : List β) (h : ∀ x ∈ l, g (f x) = some x) :
    (l.map f).mapM g = some l := by
  induction l with
  | nil => rfl
  | cons a t ih =>
    simp only [List.map_cons, List.mapM_cons, Option.bind_eq_bind, Option.pure_def]
    rw [h a (by simp), ih (fun x hx => h x (by simp [hx]))]
    rfl

omit hread in
theorem vList_back {β : Type} (g : Val → Option β) (sp : Bool) (f : β → Value) (l : List β)
    (h : ∀ x ∈ l, g (toVal (f x)) = some x) : vList? g (toVal (.vec sp (l.map f))) = some l := by
  simp only [toVal, toVals_eq_map, List.map_map, vList?]
  exact mapM_back _ _ l h

theorem vPt2s_back (ps : List (Pt2 ν)) : vList? (vPt2? readNum) (toVal (vPt2s showNum ps)) = some ps :=
  vList_back _ _ _ ps fun p _ => vPt2_back showNum readNum hread p
theorem vPt3s_back (ps : List (Pt3 ν)) : vList? (vPt3? readNum) (toVal (vPt3s showNum ps)) = some ps :=
  vList_back _ _ _ ps fun p _ => vPt3_back showNum readNum hread p
omit hread in
theorem vIndices_back (is : List Nat) (h : ∀ n ∈ is, exactInDouble n = true) :
    vList? vNat? (toVal (vIndices is)) = some is :=
  vList_back _ _ _ is fun n hn => vNat_back n (h n hn)
omit hread in
theorem vPaths_back (ps : List (List Nat)) (h : ∀ p ∈ ps, ∀ n ∈ p, exactInDouble n = true) :
    vList? (vList? vNat?) (toVal (vPaths ps)) = some ps :=
  vList_back _ _ _ ps fun p hp => vIndices_back p (h p hp)

omit hread in
theorem vBool_back (b : Bool) : vBool? (toVal (.bool b)) = some b := rfl
omit hread in
theorem vStr_back (s : List Char) : vStr? (toVal (.str s)) = some s := rfl

end

abbrev Slots := List (List Char × Option Val)

namespace Slots
def env : Slots → Env
  | [] => []
  | (n, some v) :: l => (n, v) :: env l
  | (_, none) :: l => env l
def args (l : Slots) : List PArg := l.env.map fun p => ⟨some p.1, p.2⟩
abbrev keys (l : Slots) : List (List Char) := l.map (·.1)

theorem env_append (a b : Slots) : env (a ++ b) = env a ++ env b := by
  induction a with
  | nil => rfl
  | cons x a ih => obtain ⟨n, _ | v⟩ := x <;> simp [env, ih]

/-- parts to whole: as a `simp` rule it merges a header's slot lists -/
theorem args_append (a b : Slots) : args a ++ args b = args (a ++ b) := by
  simp [args, env_append]

theorem keys_env : ∀ l : Slots, ((env l).map (·.1)).Sublist (keys l)
  | [] => .slnil
  | (_, none) :: l => .cons _ (keys_env l)
  | (_, some _) :: l => .cons_cons _ (keys_env l)

theorem all_env {l : Slots} {p : List Char → Bool} (h : (keys l).all p = true) :
    ((env l).all fun x => p x.1) = true := by
  rw [List.all_eq_true] at h ⊢
  exact fun x hx => h _ ((keys_env l).subset (List.mem_map_of_mem hx))

theorem get_env_cons (k : List Char) (o : Option Val) (l : Slots) (n : List Char) :
    (env ((k, o) :: l)).get n = if k = n then o.or ((env l).get n) else (env l).get n := by
  cases o <;> by_cases h : k = n <;> simp [env, Env.get, h]
theorem get_env_nil (n : List Char) : (env []).get n = none := rfl
end Slots

theorem bindArgs_named (sig : List (List Char)) : ∀ (e e₀ : Env) (s : Bool), ((e₀ ++ e).map (·.1)).Nodup →
    bindArgs sig (e.map fun p => ⟨some p.1, p.2⟩) s e₀ = some (e₀ ++ e)
  | [], e₀, _, _ => by simp [bindArgs]
  | p :: e, e₀, _, h => by
    have hp : e₀.any (·.1 = p.1) = false := by
      rw [List.map_append, List.nodup_append] at h
      simp only [List.any_eq_false, decide_eq_true_eq]
      exact fun x hx hxp => h.2.2 _ (List.mem_map_of_mem hx) _ (List.mem_map_of_mem List.mem_cons_self) hxp
    have ih := bindArgs_named (sig.filter (· ≠ p.1)) e (e₀ ++ [p]) true (by simpa using h)
    simpa [bindArgs, hp] using ih

theorem bindArgs_slots (sig : List (List Char)) (s : Bool) {l : Slots} (h : l.keys.Nodup) :
    bindArgs sig l.args s [] = some l.env := by
  simpa [Slots.args] using bindArgs_named sig l.env [] s (h.sublist (Slots.keys_env l))

theorem bindArgs_pos_slots (p : List Char) (sig : List (List Char)) (v : Val) {l : Slots} (h : (p :: l.keys).Nodup) :
    bindArgs (p :: sig) (⟨none, v⟩ :: l.args) false [] = some (Slots.env ((p, some v) :: l)) := by
  simpa [bindArgs, Slots.args, Slots.env] using
    bindArgs_named sig l.env [(p, v)] false (h.sublist ((Slots.keys_env l).cons_cons p))
theorem bindArgs_pos (p : List Char) (sig : List (List Char)) (v : Val) :
    bindArgs (p :: sig) [⟨none, v⟩] false [] = some (Slots.env [(p, some v)]) := rfl

theorem args_cons (n : List Char) (v : Val) (rest : List PArg) :
    (⟨some n, v⟩ : PArg) :: rest = Slots.args [(n, some v)] ++ rest := rfl
theorem toPArg_faFsFn {ν : Type} (showNum : ν → List Char) (fa fs : Option ν) (fn : Option Nat) :
    (faFsFn showNum fa fs fn).map toPArg = Slots.args [(c!"$fa", fa.map fun x => toVal (vNum showNum x)),
      (c!"$fs", fs.map fun x => toVal (vNum showNum x)), (c!"$fn", fn.map fun k => toVal (vNat k))] := by
  cases fa <;> cases fs <;> cases fn <;> rfl
theorem toPArg_optNat (n : List Char) (o : Option Nat) :
    (optNat n o).map toPArg = Slots.args [(n, o.map fun k => toVal (vNat k))] := by
  cases o <;> rfl

def readOpt {β : Type} (g : Val → Option β) : Option Val → Option (Option β)
  | none => some none
  | some v => (g v).map some
theorem optNum_eq {ν : Type} (readNum : List Char → Option ν) (env : Env) (n : List Char) :
    optNum readNum env n = readOpt (vNum? readNum) (env.get n) := by
  unfold optNum; cases env.get n <;> rfl
theorem optNat'_eq (env : Env) (n : List Char) : optNat' env n = readOpt vNat? (env.get n) := by
  unfold optNat'; cases env.get n <;> rfl
theorem readOpt_map {β : Type} (g : Val → Option β) (f : β → Val) (o : Option β) (h : ∀ x ∈ o, g (f x) = some x) :
    readOpt g (o.map f) = some o := by
  cases o with
  | none => rfl
  | some x => simp [readOpt, h x rfl]
theorem optNat_back (o : Option Nat) (h : ∀ k ∈ o.toList, exactInDouble k = true) :
    readOpt vNat? (o.map fun k => toVal (vNat k)) = some o :=
  readOpt_map _ _ o fun k hk => vNat_back k (h k (Option.mem_toList.mpr hk))

end ScadVerif.DecodeLemmas
