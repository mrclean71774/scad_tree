/-
From `EdgeClosed` to the oracle's full `closedOriented` for capped strips: caps that repeat no directed edge of their
own make the whole face list repeat none (`cap_avoids_ring`).  On strictly convex outlines the ear-clipping loop's
caps are fans from the last vertex; a fan over distinct labels repeats no edge, and no vertex within a face.
-/
import ScadVerif.Lemmas.MeshLemmas
namespace ScadVerif.FanClosed
open ScadVerif ScadVerif.Spec ScadVerif.Dim3 ScadVerif.Tri ScadVerif.TriLemmas ScadVerif.MeshLemmas

abbrev Edge := MeshLemmas.Edge

/-- the fan from apex `L` over every consecutive pair of the list.  The loop's `fanAux` is `fan2` on the polygon
without its last vertex, the apex (`fanAux_eq_fan2`); the counting lemmas are about `fan2`. -/
def fan2 (L : V ℝ) : Poly ℝ → List (Tri3 ℝ)
  | a :: b :: rest => (L, a, b) :: fan2 L (b :: rest)
  | _ => []

theorem fanAux_eq_fan2 (L : V ℝ) : ∀ poly : Poly ℝ, fanAux L poly = fan2 L poly.dropLast
  | [] => rfl
  | [_] => rfl
  | [_, _] => rfl
  | a :: b :: c :: rest => by
    have ih := fanAux_eq_fan2 L (b :: c :: rest)
    simp only [fanAux, List.dropLast_cons_cons, fan2] at ih ⊢
    rw [ih]

/-- apex to base, base to base, or from a base vertex other than the first back to the apex -/
theorem fan2_edge_kind (L : V ℝ) : ∀ (q : Poly ℝ) (e : Edge), e ∈ runEdges (fan2 L q) →
    (e.1 = L.1 ∧ e.2 ∈ lab q) ∨ (e.1 ∈ lab q ∧ e.2 ∈ lab q) ∨ (e.1 ∈ lab q.tail ∧ e.2 = L.1)
  | [], e, h => absurd h List.not_mem_nil
  | [_], e, h => absurd h List.not_mem_nil
  | a :: b :: rest, e, h => by
    rcases List.mem_append.mp (h : e ∈ triEdges (L, a, b) ++ runEdges (fan2 L (b :: rest))) with h | h
    · simp only [triEdges, List.mem_cons, List.not_mem_nil, or_false] at h
      rcases h with rfl | rfl | rfl
      · exact .inl ⟨rfl, List.mem_cons_self⟩
      · exact .inr (.inl ⟨List.mem_cons_self, List.mem_cons_of_mem _ List.mem_cons_self⟩)
      · exact .inr (.inr ⟨List.mem_cons_self, rfl⟩)
    · rcases fan2_edge_kind L (b :: rest) e h with ⟨h1, h2⟩ | ⟨h1, h2⟩ | ⟨h1, h2⟩
      · exact .inl ⟨h1, List.mem_cons_of_mem _ h2⟩
      · exact .inr (.inl ⟨List.mem_cons_of_mem _ h1, List.mem_cons_of_mem _ h2⟩)
      · exact .inr (.inr ⟨List.mem_cons_of_mem _ h1, h2⟩)

theorem fan2_nodup (L : V ℝ) : ∀ (q : Poly ℝ), (L.1 :: lab q).Nodup → (runEdges (fan2 L q)).Nodup
  | [], _ => by simp [fan2, runEdges]
  | [_], _ => by simp [fan2, runEdges]
  | a :: b :: rest, hnd => by
    have ih := fan2_nodup L (b :: rest) (hnd.sublist ((List.sublist_cons_self _ _).cons_cons _))
    have kind := fan2_edge_kind L (b :: rest)
    obtain ⟨hL, hnd⟩ := List.nodup_cons.mp hnd
    obtain ⟨ha, hnd⟩ : a.1 ∉ lab (b :: rest) ∧ (lab (b :: rest)).Nodup := List.nodup_cons.mp hnd
    have hb : b.1 ∉ lab rest := (List.nodup_cons.mp hnd).1
    have hLa : L.1 ≠ a.1 := fun h => hL (h ▸ List.mem_cons_self)
    have hLS : L.1 ∉ lab (b :: rest) := fun h => hL (List.mem_cons_of_mem _ h)
    have hbS : b.1 ∈ lab (b :: rest) := List.mem_cons_self
    simp only [fan2, runEdges, List.flatMap_cons, triEdges, List.cons_append, List.nil_append,
      List.nodup_cons, List.mem_cons, not_or]
    -- (L,a), (a,b), (b,L) differ from one another and from the edges of the rest of the fan (the three `?_`): each
    -- kind of edge there would put the apex or `a` among the labels of `b :: rest`, or `b` among those of `rest`
    refine ⟨⟨fun h => hLa (Prod.mk.inj h).1, fun h => hLS ((Prod.mk.inj h).1 ▸ hbS), fun h => ?_⟩,
      ⟨fun h => ha ((Prod.mk.inj h).1 ▸ hbS), fun h => ?_⟩, fun h => ?_, ih⟩
    · rcases kind _ h with ⟨_, h2⟩ | ⟨h1, _⟩ | ⟨h1, _⟩
      exacts [ha h2, hLS h1, hLS (List.mem_cons_of_mem _ h1)]
    · rcases kind _ h with ⟨h1, _⟩ | ⟨h1, _⟩ | ⟨h1, _⟩
      exacts [hLa h1.symm, ha h1, ha (List.mem_cons_of_mem _ h1)]
    · rcases kind _ h with ⟨h1, _⟩ | ⟨_, h2⟩ | ⟨h1, _⟩
      exacts [hLS (h1 ▸ hbS), hLS h2, hb h1]

/-- a cap `X` never repeats an edge of its ring `R` in the direction the strip uses it: count `e` and `e.swap` in
`X ++ R` -/
theorem cap_avoids_ring (X R : List Edge) (hX : X.Nodup) (hR : R.Nodup)
    (hRR : ∀ e ∈ R, e.swap ∉ R) (hcl : EdgeClosed (X ++ R)) : ∀ e ∈ R, e ∉ X := by
  intro e heR heX
  unfold EdgeClosed at hcl
  have hc := hcl.count_eq e
  rw [count_map_swap, List.count_append, List.count_append] at hc
  have h1 : X.count e = 1 := List.count_eq_one_of_mem hX heX
  have h2 : R.count e = 1 := List.count_eq_one_of_mem hR heR
  have h3 : R.count e.swap = 0 := List.count_eq_zero.mpr (hRR e heR)
  have h4 : X.count e.swap ≤ 1 := List.nodup_iff_count_le_one.mp hX _
  omega

/-- caps `X` on ring 0 (vertices below `n`) and `Y` on ring 1 (vertices in `[n, 2n)`), glued to the strip -/
theorem capped_strip_nodup (n : Nat) (hn : 3 ≤ n) (X Y : List Edge)
    (hX : X.Nodup) (hY : Y.Nodup)
    (hXv : ∀ e ∈ X, e.1 < n ∧ e.2 < n) (hYv : ∀ e ∈ Y, n ≤ e.1 ∧ n ≤ e.2)
    (hXc : EdgeClosed (X ++ ringF n 0)) (hYc : EdgeClosed (Y ++ (ringF n 1).map Prod.swap)) :
    (X ++ Y ++ allEdges (strip n 0 1)).Nodup := by
  have hXR := cap_avoids_ring X (ringF n 0) hX (ringF_nodup n 0)
    (fun e h1 h2 => ringF_swap_disjoint n 0 hn e h1 h2) hXc
  have hYR := cap_avoids_ring Y ((ringF n 1).map Prod.swap) hY ((ringF_nodup n 1).map Prod.swap_injective)
    (fun e h1 h2 => ringF_swap_disjoint n 1 hn e.swap ((mem_map_swap _ _).mp h1) ((mem_map_swap _ _).mp h2)) hYc
  rw [List.nodup_append, List.nodup_append]
  refine ⟨⟨hX, hY, ?_⟩, strip_edges_nodup n 0 1 (by omega), ?_⟩
  · rintro a ha _ hb rfl
    have := hXv a ha; have := hYv a hb; omega
  · -- an edge of the strip lies in ring 0 (forwards: not in `X`), in ring 1 (backwards: not in `Y`) or between them
    rintro a ha _ hb rfl
    have kind := strip_edge_kind n 0 1 a hb
    rcases List.mem_append.mp ha with ha | ha
    · have d1 := Nat.div_eq_of_lt (hXv a ha).1
      have d2 := Nat.div_eq_of_lt (hXv a ha).2
      rcases kind with ⟨m, _⟩ | ⟨_, _, _⟩ | x
      · exact hXR a m ha
      · omega
      · omega
    · have d1 : 1 ≤ a.1 / n := (Nat.le_div_iff_mul_le (by omega)).mpr (by have := (hYv a ha).1; omega)
      have d2 : 1 ≤ a.2 / n := (Nat.le_div_iff_mul_le (by omega)).mpr (by have := (hYv a ha).2; omega)
      rcases kind with ⟨_, _, _⟩ | ⟨m, _⟩ | x
      · omega
      · exact hYR a ((mem_map_swap _ a).mpr m) ha
      · omega

theorem getLast_not_mem_dropLast (l : List Nat) (hnd : l.Nodup) (x : Nat) (h : l.getLast? = some x) :
    x ∉ l.dropLast := by
  rw [← List.dropLast_append_getLast? x h] at hnd
  exact fun hx => (List.nodup_append.mp hnd).2.2 x hx x (List.mem_singleton_self x) rfl

theorem lab_dropLast (poly : Poly ℝ) : lab poly.dropLast = (lab poly).dropLast := by
  simp [lab, List.map_dropLast]

theorem vAt_last_lab (poly : Poly ℝ) (h : poly ≠ []) :
    (lab poly).getLast? = some (vAt poly (poly.length - 1)).1 := by
  rw [getLast?_eq_getD _ 0 (by simpa [lab] using h), lab_length, lab_getD]

/-- the hypothesis of `fan2_nodup` and `fan2_tri_nodup` for the loop's fan -/
theorem apex_nodup (poly : Poly ℝ) (hn : poly ≠ []) (hnd : (lab poly).Nodup) :
    ((vAt poly (poly.length - 1)).1 :: lab poly.dropLast).Nodup := by
  rw [List.nodup_cons, lab_dropLast]
  exact ⟨getLast_not_mem_dropLast _ hnd _ (vAt_last_lab poly hn), hnd.sublist (List.dropLast_sublist _)⟩

theorem fanAux_nodup (poly : Poly ℝ) (hn : poly ≠ []) (hnd : (lab poly).Nodup) :
    (runEdges (fanAux (vAt poly (poly.length - 1)) poly)).Nodup :=
  fanAux_eq_fan2 _ poly ▸ fan2_nodup _ _ (apex_nodup poly hn hnd)

theorem fan2_tri_nodup (L : V ℝ) : ∀ (q : Poly ℝ), (L.1 :: lab q).Nodup → ∀ t ∈ fan2 L q, (triLabels t).Nodup
  | [], _, t, h => by simp [fan2] at h
  | [_], _, t, h => by simp [fan2] at h
  | a :: b :: rest, hnd, t, h => by
    simp only [fan2, List.mem_cons] at h
    rcases h with rfl | h
    · simp only [lab, List.map_cons, List.nodup_cons, List.mem_cons, not_or] at hnd
      simp only [triLabels, List.nodup_cons, List.mem_cons, List.not_mem_nil, or_false, not_or,
        List.nodup_nil, and_true, not_false_eq_true]
      exact ⟨⟨hnd.1.1, hnd.1.2.1⟩, hnd.2.1.1⟩
    · exact fan2_tri_nodup L (b :: rest) (hnd.sublist ((List.sublist_cons_self _ _).cons_cons _)) t h

theorem fanAux_faces_nodup (poly : Poly ℝ) (hn : poly ≠ []) (hnd : (lab poly).Nodup) (off : Nat) :
    ∀ f ∈ triFaces off (labels (fanAux (vAt poly (poly.length - 1)) poly)), f.Nodup := by
  rw [fanAux_eq_fan2, triFaces_eq_triples, triples_labels, List.map_map]
  intro f hf
  obtain ⟨t, ht, rfl⟩ := List.mem_map.mp hf
  exact (fan2_tri_nodup _ _ (apex_nodup poly hn hnd) t ht).map fun a b h => Nat.add_right_cancel h

theorem strip_faces_nodup (n lo hi : Nat) (hn : 2 ≤ n) (h : lo ≠ hi) : ∀ f ∈ strip n lo hi, f.Nodup :=
  strip_quad_nodup n lo hi hn h

/-- the cap the loop emits on a strictly convex polygon with distinct labels -/
theorem convex_cap (ccw : Bool) (poly : Poly ℝ) (hn : 3 ≤ poly.length) (hc : ConvexPos ccw (pts poly))
    (hnd : (lab poly).Nodup) (off : Nat) :
    (∀ f ∈ triFaces off (triangulate poly), f.Nodup) ∧ (allEdges (triFaces off (triangulate poly))).Nodup := by
  have hne : poly ≠ [] := fun h => by simp [h] at hn
  rw [triangulate_convex_fan ccw poly hn hc, triFaces_labels]
  exact ⟨fanAux_faces_nodup poly hne hnd off, (fanAux_nodup poly hne hnd).map (shift_inj off)⟩

/-- … whichever entry point emitted it, on a strictly convex outline -/
theorem convex_cap2d (ccw : Bool) {vs : List (Pt2 ℝ)} {out : List Nat} (hc : ConvexPos ccw vs)
    (h : triangulate2d vs = some out ∨ triangulate2dRev vs = some out) (off : Nat) :
    (∀ f ∈ triFaces off out, f.Nodup) ∧ (allEdges (triFaces off out)).Nodup := by
  obtain ⟨c, poly, rfl, -, hn, hc', hnd⟩ := convex_entry ccw hc h
  exact convex_cap c poly hn hc' hnd off

/-- **a capped strip whose caps are as follows satisfies the oracle's Boolean**.  Hypotheses `xb`/`xt`, on the
bottom/top cap: `h` indices below `n`, `f` no face repeats a vertex, `n` no directed edge twice, `c` closed against
its ring (0 taken backwards, 1 forwards). -/
theorem capped_strip_closedOriented (n : Nat) (hn : 3 ≤ n) (b t : List Nat) (hb : ∀ i ∈ b, i < n) (ht : ∀ i ∈ t, i < n)
    (fb : ∀ f ∈ triFaces 0 b, f.Nodup) (ft : ∀ f ∈ triFaces n t, f.Nodup)
    (nb : (allEdges (triFaces 0 b)).Nodup) (nt : (allEdges (triFaces n t)).Nodup)
    (cb : EdgeClosed (allEdges (triFaces 0 b) ++ ringF n 0))
    (ct : EdgeClosed (allEdges (triFaces n t) ++ (ringF n 1).map Prod.swap)) :
    closedOriented (2 * n) (triFaces 0 b ++ triFaces n t ++ strip n 0 1) = true := by
  apply closedOriented_of
  · intro f hf
    have hv := capped_valid n b t hb ht f hf
    refine ⟨by rcases hv.2 with h | h <;> omega, hv.1, ?_⟩
    rcases List.mem_append.mp hf with hf | hf
    · rcases List.mem_append.mp hf with hf | hf
      · exact fb f hf
      · exact ft f hf
    · exact strip_quad_nodup n 0 1 (by omega) (by omega) f hf
  · rw [allEdges_append, allEdges_append]
    refine capped_strip_nodup n hn _ _ nb nt (fun e he => ?_) (fun e he => ?_) cb ct
    · obtain ⟨f, hf, h1, h2⟩ := mem_allEdges _ e he
      have := (triFaces_valid 0 n b hb f hf).2
      exact ⟨(this _ h1).2, (this _ h2).2⟩
    · obtain ⟨f, hf, h1, h2⟩ := mem_allEdges _ e he
      have := (triFaces_valid n n t ht f hf).2
      exact ⟨(this _ h1).1, (this _ h2).1⟩
  · rw [allEdges_append, allEdges_append]
    exact capped_strip_closed' n 0 1 _ _ cb ct

end ScadVerif.FanClosed
