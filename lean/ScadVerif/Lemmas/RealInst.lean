/- Instances of the model's scalar classes (Model/Scalar.lean) at ℝ, with simp lemmas to Mathlib's
operations.  The proof modules get Mathlib through this file; `interval_cases` is for Props/C09. -/
import Mathlib.Analysis.SpecialFunctions.Trigonometric.Arctan
import Mathlib.Tactic.IntervalCases
import ScadVerif.Model.Scalar
namespace ScadVerif

/-- `n as f64`.  Low priority: the instance for `Int` (Model/Scalar.lean) is found first. -/
instance (priority := low) instOfNatCastOfNatCast {α : Type} [NatCast α] : OfNatCast α := ⟨Nat.cast⟩

@[simp] theorem cast_eq_natCast {α : Type} [NatCast α] (n : Nat) :
    (OfNatCast.cast n : α) = (n : α) := rfl

noncomputable instance : Trig ℝ where
  sin := Real.sin
  cos := Real.cos
  tan := Real.tan
  asin := Real.arcsin
  acos := Real.arccos
  atan := Real.arctan
  pi := Real.pi

noncomputable instance : HasSqrt ℝ := ⟨Real.sqrt⟩
noncomputable instance : HasAbs ℝ := ⟨fun x => |x|⟩

open Classical in
noncomputable instance : Cmp ℝ where
  ltb a b := decide (a < b)
  leb a b := decide (a ≤ b)
  eqb a b := decide (a = b)

@[simp] theorem ltb_real (a b : ℝ) : (Cmp.ltb a b = true) ↔ a < b := by simp [Cmp.ltb]
@[simp] theorem leb_real (a b : ℝ) : (Cmp.leb a b = true) ↔ a ≤ b := by simp [Cmp.leb]
@[simp] theorem eqb_real (a b : ℝ) : (Cmp.eqb a b = true) ↔ a = b := by simp [Cmp.eqb]

@[simp] theorem sqrt_real (x : ℝ) : (HasSqrt.sqrt x : ℝ) = Real.sqrt x := rfl
@[simp] theorem abs_real (x : ℝ) : (HasAbs.abs x : ℝ) = |x| := rfl
@[simp] theorem sin_real (x : ℝ) : (Trig.sin x : ℝ) = Real.sin x := rfl
@[simp] theorem cos_real (x : ℝ) : (Trig.cos x : ℝ) = Real.cos x := rfl
@[simp] theorem tan_real (x : ℝ) : (Trig.tan x : ℝ) = Real.tan x := rfl
@[simp] theorem asin_real (x : ℝ) : (Trig.asin x : ℝ) = Real.arcsin x := rfl
@[simp] theorem acos_real (x : ℝ) : (Trig.acos x : ℝ) = Real.arccos x := rfl
@[simp] theorem atan_real (x : ℝ) : (Trig.atan x : ℝ) = Real.arctan x := rfl
@[simp] theorem pi_real : (Trig.pi : ℝ) = Real.pi := rfl
theorem toRad_real (d : ℝ) : toRad d = d * (Real.pi / 180) := by simp [toRad]
theorem toDeg_real (r : ℝ) : toDeg r = r * (180 / Real.pi) := by simp [toDeg]

theorem cs_unit (d : ℝ) : dcos d * dcos d + dsin d * dsin d = 1 := by
  simp only [dcos, dsin, cos_real, sin_real, ← sq]; exact Real.cos_sq_add_sin_sq _
theorem dcos_add (a b : ℝ) : dcos (a + b) = dcos a * dcos b - dsin a * dsin b := by
  simp only [dcos, dsin, toRad, cos_real, sin_real, add_mul, Real.cos_add]
theorem dsin_add (a b : ℝ) : dsin (a + b) = dsin a * dcos b + dcos a * dsin b := by
  simp only [dcos, dsin, toRad, cos_real, sin_real, add_mul, Real.sin_add]
theorem dcos_neg (a : ℝ) : dcos (-a) = dcos a := by simp [dcos, toRad]
theorem dsin_neg (a : ℝ) : dsin (-a) = -dsin a := by simp [dsin, toRad]

/-- holds at ℝ and ℤ, not at `Float` (NaN); what `C09.inverse_none_iff` needs of the scalar -/
class LawfulEqb (α : Type) [Cmp α] : Prop where
  eqb_iff : ∀ a b : α, Cmp.eqb a b = true ↔ a = b

instance : LawfulEqb ℝ := ⟨eqb_real⟩
instance : LawfulEqb Int := ⟨by intro a b; simp [Cmp.eqb]⟩

end ScadVerif
