/-
Tie between the model of the six `Pipe` builders (Model/Parts.lean) and their transcription from pipe.rs
(`Gen/SrcPipe.lean`; macro invocations instantiated from the extracted arm table).  Obligations of C15.
Closed by `rfl`; where the source has two consecutive `assert!`s and the model one conjunction, by the
Boolean cases.
-/
import ScadVerif.Gen.SrcPipe
import ScadVerif.Model.Parts
set_option linter.unusedSectionVars false
namespace ScadVerif.TiePipe
open ScadVerif

variable {α : Type} [Add α] [Sub α] [Mul α] [Div α] [Neg α] [OfNat α 0] [OfNat α 1]
  [OfNatCast α] [Trig α] [HasSqrt α] [HasAbs α] [Cmp α] [HasTrunc α]

theorem straight (od wall length : α) (center : Bool) (fn : Nat) :
    Src.Pipe.straight od wall length center fn = Parts.Pipe.straight od wall length center fn := rfl
theorem straight_solid (od length : α) (center : Bool) (fn : Nat) :
    Src.Pipe.straight_solid od length center fn = Parts.Pipe.straightSolid od length center fn := rfl
theorem tapered (od1 od2 wall length : α) (center : Bool) (fn : Nat) :
    Src.Pipe.tapered od1 od2 wall length center fn = Parts.Pipe.tapered od1 od2 wall length center fn := by
  unfold Src.Pipe.tapered Parts.Pipe.tapered Parts.Pipe.boreOk
  cases Cmp.ltb 0 (od1 - wall * lit 2) <;> cases Cmp.ltb 0 (od2 - wall * lit 2) <;> rfl
theorem tapered_solid (od1 od2 length : α) (center : Bool) (fn : Nat) :
    Src.Pipe.tapered_solid od1 od2 length center fn = Parts.Pipe.taperedSolid od1 od2 length center fn := rfl
theorem curved (od wall degrees radius : α) (fn : Nat) :
    Src.Pipe.curved od wall degrees radius fn = Parts.Pipe.curved od wall degrees radius fn := by
  unfold Src.Pipe.curved Parts.Pipe.curved Parts.Pipe.boreOk Parts.Pipe.degreesOk
  cases Cmp.ltb 0 (od - wall * lit 2) <;>
    cases (Cmp.ltb 0 degrees && Cmp.leb degrees (lit 360)) <;> rfl
theorem curved_solid (od degrees radius : α) (fn : Nat) :
    Src.Pipe.curved_solid od degrees radius fn = Parts.Pipe.curvedSolid od degrees radius fn := rfl

end ScadVerif.TiePipe
