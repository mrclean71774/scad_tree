/-
The model of the private ear-clipping loop `triangulate` (Model/Tri.lean: `leftmost`, `refCcw`, `isEar`,
`findEar`, `clip`) is its transcription from triangulate.rs (`Gen/SrcTriangulate.lean`).  Obligation of C03 (and
of C04, C05, whose caps come from this loop).

The source: three nested loops with `break`/`continue`, signed counters and a pointer comparison.  The
transcription: a bounded `while` (`Src.whileFuel`) around folds over (state, broke) pairs.  The model:
`findIdxFrom` / `anyIdx` / structural recursion.  The proof: by `src_eq` the transcription *is* (`rfl`) the
composition of the step functions written out below (`innerStep`, `outerStep`, `whileBody`); these compute what the
model does: (A) the left-most-vertex scan gives `refCcw`; (B) the inner fold is "no later vertex other than the
neighbours lies in the triangle"; (C) the outer fold returns the first ear in scan order; (D) the bounded `while`
is `clip`; its bound, the number of vertices, is never reached.
-/
import ScadVerif.Gen.SrcTriangulate
import ScadVerif.Lemmas.Fold
import ScadVerif.Model.Tri
import ScadVerif.Tie.Tri
import ScadVerif.Lemmas.TriScan
set_option linter.unusedSectionVars false
namespace ScadVerif.TieTriLoop
open ScadVerif ScadVerif.Tri

variable {α : Type} [Add α] [Sub α] [Mul α] [Div α] [Neg α] [OfNat α 0] [OfNat α 1]
  [OfNatCast α] [Trig α] [HasSqrt α] [HasAbs α] [Cmp α]

abbrev dflt : Nat × Pt2 α := (0, ⟨0, 0⟩)

/-! The step functions carry the loop variables in the transcription's order (alphabetical), then the `break` flag:
`innerStep` (ear, broke), `outerStep` ((eartip, index), broke), `whileBody` ((polygon, triangles), broke).  `index`
and `eartip` are the source's `isize` counters, −1 = none yet; `leftStep`/`srcCcw`: the left-most-vertex scan before
the loop. -/
def leftStep (polygon : Poly α) (st : Nat × Pt2 α) (i : Nat) : Nat × Pt2 α :=
  if (Cmp.ltb (polygon.getD i dflt).2.x st.2.x ||
      (Cmp.eqb (polygon.getD i dflt).2.x st.2.x && Cmp.ltb (polygon.getD i dflt).2.y st.2.y))
  then (i, (polygon.getD i dflt).2) else (st.1, st.2)

def innerStep (polygon : Poly α) (p n : Nat) (index : Int) (i : Nat × Pt2 α) (st : Bool × Bool) (j : Nat) :
    Bool × Bool :=
  if st.2 then st else
    if ((decide (j = p) || decide (j = n)) || decide (j = Int.toNat index)) then (st.1, false)
    else if Src.triangulate.in_triangle (polygon.getD j dflt) (polygon.getD p dflt) i (polygon.getD n dflt)
      then (false, true) else (st.1, false)

def outerStep (polygon : Poly α) (ccw : Bool) (st : (Int × Int) × Bool) (i : Nat × Pt2 α) : (Int × Int) × Bool :=
  if st.2 then st else
    let eartip := st.1.1
    let index := st.1.2 + 1
    if decide ((0 : Int) ≤ eartip) then ((eartip, index), true)
    else
      let p : Nat := if decide ((index : Int) = 0) then polygon.length - 1 else Int.toNat (index - 1)
      let n : Nat := if decide (Int.toNat index = polygon.length - 1) then 0 else Int.toNat (index + 1)
      if (Src.triangulate.is_ccw [polygon.getD p dflt, i, polygon.getD n dflt] != ccw) then ((eartip, index), false)
      else
        let ear := (List.foldl (innerStep polygon p n index i) (true, false)
          (List.range' (Int.toNat (index + 1)) (polygon.length - Int.toNat (index + 1)))).1
        ((if ear then index else eartip, index), false)

def whileBody (ccw : Bool) (st : Poly α × List Nat) : (Poly α × List Nat) × Bool :=
  let polygon := st.1
  let triangles := st.2
  let eartip := (List.foldl (outerStep polygon ccw) (((-1 : Int), (-1 : Int)), false) polygon).1.1
  if decide ((eartip : Int) < 0) then ((polygon, triangles), true)
  else
    let p : Nat := if decide ((eartip : Int) = 0) then polygon.length - 1 else Int.toNat eartip - 1
    let n : Nat := if decide (Int.toNat eartip = polygon.length - 1) then 0 else Int.toNat eartip + 1
    ((List.eraseIdx polygon (Int.toNat eartip),
      triangles ++ [(polygon.getD p dflt).1] ++ [(polygon.getD (Int.toNat eartip) dflt).1] ++ [(polygon.getD n dflt).1]), false)

def srcCcw (polygon : Poly α) : Bool :=
  let index := (List.foldl (leftStep polygon) (0, (polygon.getD 0 dflt).2) (List.range polygon.length)).1
  Src.triangulate.is_ccw
    [polygon.getD (if decide (index = 0) then polygon.length - 1 else index - 1) dflt,
     polygon.getD index dflt,
     polygon.getD (if decide (index = polygon.length - 1) then 0 else index + 1) dflt]

/-- the generated definition unfolds to this term; a change of shape in the generator's output breaks this `rfl` -/
theorem src_eq (polygon : Poly α) :
    Src.triangulate.triangulate polygon =
      (Src.whileFuel (fun st => decide (3 ≤ st.1.length)) (whileBody (srcCcw polygon)) polygon.length (polygon, [])).bind
        (fun st => some st.2) := rfl

/-! ### (A) the reference orientation -/
theorem leftmost_eq (polygon : Poly α) :
    (List.foldl (leftStep polygon) (0, (polygon.getD 0 dflt).2) (List.range polygon.length)).1 = leftmost polygon := by
  unfold leftmost
  simp only
  rw [foldIdx_eq dflt]
  simp only [Nat.zero_add]
  rfl

theorem srcCcw_eq (polygon : Poly α) : srcCcw polygon = refCcw polygon := by
  unfold srcCcw refCcw
  simp only [leftmost_eq, TieTri.is_ccw, prevIdx, nextIdx, pt, decide_eq_true_eq]

/-! ### (B) the inner loop -/
theorem inner_fold (polygon : Poly α) (p n : Nat) (index : Int) (i : Nat × Pt2 α) :
    ∀ (l : List Nat) (e : Bool),
      List.foldl (innerStep polygon p n index i) (e, false) l =
        if l.any (fun j => !((decide (j = p) || decide (j = n)) || decide (j = Int.toNat index)) &&
            Src.triangulate.in_triangle (polygon.getD j dflt) (polygon.getD p dflt) i (polygon.getD n dflt))
        then (false, true) else (e, false) := fun l e =>
  foldl_break_any _ _ e false (fun _ => rfl)
    (fun j => by
      unfold innerStep
      cases ((decide (j = p) || decide (j = n)) || decide (j = Int.toNat index)) <;>
        cases Src.triangulate.in_triangle (polygon.getD j dflt) (polygon.getD p dflt) i (polygon.getD n dflt) <;> rfl)
    l

/-- the test of the outer loop's body at vertex `k` on loop element `x`: `outerStep` computes it (`outer_step`), and
at `x = polygon[k]` it is `isEar` (`srcEar_eq`) -/
def srcEar (polygon : Poly α) (ccw : Bool) (k : Nat) (x : Nat × Pt2 α) : Bool :=
  let p := prevIdx polygon.length k
  let n := nextIdx polygon.length k
  if (Src.triangulate.is_ccw [polygon.getD p dflt, x, polygon.getD n dflt] != ccw) then false
  else (List.foldl (innerStep polygon p n (k : Int) x) (true, false)
    (List.range' (k + 1) (polygon.length - (k + 1)))).1

/-- the model scans every `j` and tests `k < j`; the source starts its range at `k + 1` -/
theorem any_later (len k : Nat) (r r' : Nat → Bool) (h : ∀ j, k < j → r j = r' j) :
    (List.range len).any (fun j => decide (k < j) && r j) = (List.range' (k + 1) (len - (k + 1))).any r' := by
  rw [Bool.eq_iff_iff]
  simp only [List.any_eq_true, List.mem_range, List.mem_range'_1, Bool.and_eq_true, decide_eq_true_eq]
  constructor
  · rintro ⟨j, hj, hkj, hr⟩
    exact ⟨j, by omega, h j hkj ▸ hr⟩
  · rintro ⟨j, hj, hr⟩
    exact ⟨j, by omega, by omega, (h j (by omega)).symm ▸ hr⟩

theorem srcEar_eq (polygon : Poly α) (ccw : Bool) (k : Nat) :
    srcEar polygon ccw k (polygon.getD k dflt) = isEar polygon ccw k := by
  unfold srcEar isEar
  simp only [TieTri.is_ccw, pt, inner_fold]
  by_cases hc : (isCcw (polygon.getD (prevIdx polygon.length k) dflt).2 (polygon.getD k dflt).2
      (polygon.getD (nextIdx polygon.length k) dflt).2 != ccw) = true
  · simp only [hc, if_true]
  · simp only [hc, Bool.false_eq_true, if_false]
    rw [anyIdx_eq dflt]
    simp only [Nat.zero_add, Bool.and_assoc]
    rw [any_later polygon.length k _
      (fun j => !((decide (j = prevIdx polygon.length k) || decide (j = nextIdx polygon.length k)) || decide (j = Int.toNat (k : Int))) &&
        Src.triangulate.in_triangle (polygon.getD j dflt) (polygon.getD (prevIdx polygon.length k) dflt) (polygon.getD k dflt)
          (polygon.getD (nextIdx polygon.length k) dflt))]
    · cases (List.range' (k + 1) (polygon.length - (k + 1))).any _ <;> rfl
    · intro j hj
      have hne : decide (j = Int.toNat (k : Int)) = false := by
        simp only [Int.toNat_natCast, decide_eq_false_iff_not]; omega
      simp only [hne, Bool.or_false, TieTri.in_triangle, bne, Bool.not_or, Bool.and_assoc]
      rfl

/-! ### (C) the outer loop -/
/-- once an ear tip is recorded it stays: the next iteration breaks, and a set flag freezes the state -/
theorem outer_found (polygon : Poly α) (ccw : Bool) (e : Int) (he : 0 ≤ e) (l : Poly α) (st : (Int × Int) × Bool)
    (h : st.1.1 = e) : (List.foldl (outerStep polygon ccw) st l).1.1 = e :=
  List.foldlRecOn (motive := fun st : (Int × Int) × Bool => st.1.1 = e) l _ h fun st h _ _ => by
    cases hb : st.2
    · simp only [outerStep, hb, h, he, Bool.false_eq_true, if_false, decide_true, if_true]
    · simp only [outerStep, hb, if_true, h]

/-- the `continue` on a wrong turn and the ear test after it, merged into the one conditional that `srcEar` is -/
theorem ite_shape (C : Prop) [Decidable C] (f : Bool) (k : Int) :
    (if C then (((-1 : Int), k), false) else ((if f = true then k else -1, k), false)) =
      ((if (if C then false else f) = true then k else -1, k), false) := by
  split <;> simp

theorem outer_step (polygon : Poly α) (ccw : Bool) (k : Nat) (x : Nat × Pt2 α) :
    outerStep polygon ccw (((-1 : Int), (k : Int) - 1), false) x =
      ((if srcEar polygon ccw k x then (k : Int) else -1, (k : Int)), false) := by
  have h1 : (k : Int) - 1 + 1 = k := by omega
  have h2 : Int.toNat ((k : Int) - 1) = k - 1 := by omega
  have h3 : Int.toNat ((k : Int) + 1) = k + 1 := by omega
  simp only [outerStep, Bool.false_eq_true, if_false, h1, h2, h3, Int.natCast_eq_zero, Int.toNat_natCast, srcEar,
    prevIdx, nextIdx, decide_eq_true_eq, show ¬ ((0 : Int) ≤ -1) by omega, decide_false]
  exact ite_shape _ _ _

/-- The source increments `index` before it uses it, so on entry to the iteration for vertex `k` the counter
holds `k - 1` (−1 before the first) -/
theorem outer_scan (polygon : Poly α) (ccw : Bool) :
    ∀ (l : Poly α) (k : Nat), l = polygon.drop k →
      (List.foldl (outerStep polygon ccw) (((-1 : Int), (k : Int) - 1), false) l).1.1 =
        (match findIdxFrom l k (fun i _ => isEar polygon ccw i) with
          | some e => (e : Int)
          | none => -1)
  | [], _, _ => rfl
  | x :: l, k, h => by
    have hk : k < polygon.length := by
      refine Nat.lt_of_not_le fun hk => ?_
      rw [List.drop_eq_nil_of_le hk] at h
      cases h
    rw [List.drop_eq_getElem_cons hk] at h
    obtain ⟨hx, hl⟩ := List.cons.inj h
    have hx : x = polygon.getD k dflt := by
      rw [hx, List.getD_eq_getElem?_getD, List.getElem?_eq_getElem hk]; rfl
    rw [List.foldl_cons, outer_step, findIdxFrom, hx, srcEar_eq]
    by_cases he : isEar polygon ccw k = true
    · simp only [he, if_true]
      exact outer_found polygon ccw k (by omega) l _ rfl
    · simp only [he, Bool.false_eq_true, if_false]
      have hidx : (k : Int) = ((k + 1 : Nat) : Int) - 1 := by omega
      rw [hidx]
      exact outer_scan polygon ccw l (k + 1) hl

theorem outer_eq (polygon : Poly α) (ccw : Bool) :
    (List.foldl (outerStep polygon ccw) (((-1 : Int), (-1 : Int)), false) polygon).1.1 =
      (match findEar polygon ccw with
        | some e => (e : Int)
        | none => -1) := by
  have := outer_scan polygon ccw polygon 0 (by simp)
  simpa [findEar] using this

/-! ### (D) the bounded `while` is `clip` -/
theorem whileBody_eq (ccw : Bool) (polygon : Poly α) (acc : List Nat) :
    whileBody ccw (polygon, acc) =
      (match findEar polygon ccw with
        | none => ((polygon, acc), true)
        | some e => ((polygon.eraseIdx e,
            acc ++ [idx polygon (prevIdx polygon.length e), idx polygon e, idx polygon (nextIdx polygon.length e)]), false)) := by
  unfold whileBody
  simp only [outer_eq]
  cases findEar polygon ccw with
  | none => simp
  | some e =>
    have h1 : ¬ ((e : Int) < 0) := by omega
    simp only [h1, decide_false, Bool.false_eq_true, if_false, Int.natCast_eq_zero, Int.toNat_natCast, prevIdx,
      nextIdx, idx, decide_eq_true_eq, List.append_assoc, List.cons_append, List.nil_append]

theorem while_eq (ccw : Bool) :
    ∀ (fuel : Nat) (polygon : Poly α) (acc : List Nat), polygon.length ≤ fuel + 2 →
      (Src.whileFuel (fun st => decide (3 ≤ st.1.length)) (whileBody ccw) (fuel + 1) (polygon, acc)).bind
          (fun st => some st.2) = some (clip (fuel + 1) polygon ccw acc) := by
  intro fuel
  induction fuel with
  | zero =>
    intro polygon acc h
    have hlt : polygon.length < 3 := by omega
    simp only [Src.whileFuel, clip, hlt, decide_eq_false (Nat.not_le.mpr hlt), Bool.false_eq_true, if_false, if_true,
      Option.bind_some]
  | succ f ih =>
    intro polygon acc h
    rw [Src.whileFuel, clip]
    by_cases hlt : polygon.length < 3
    · simp only [hlt, decide_eq_false (Nat.not_le.mpr hlt), Bool.false_eq_true, if_false, if_true, Option.bind_some]
    · simp only [hlt, decide_eq_true (Nat.le_of_not_lt hlt), if_true, if_false, whileBody_eq]
      cases he : findEar polygon ccw with
      | none => simp
      | some e =>
        simp only [Bool.false_eq_true, if_false]
        exact ih _ _ (by rw [List.length_eraseIdx_of_lt (findEar_some polygon ccw e he).1]; omega)

/-- the private `triangulate` of triangulate.rs is the model's loop -/
theorem triangulate (polygon : Poly α) (h : 2 ≤ polygon.length) :
    Src.triangulate.triangulate polygon = Tri.triangulateChecked polygon := by
  rw [src_eq, srcCcw_eq, TieTri.checked_of_length polygon h]
  obtain ⟨f, hf⟩ : ∃ f, polygon.length = f + 1 := ⟨polygon.length - 1, by omega⟩
  unfold Tri.triangulate
  rw [hf]
  exact while_eq (refCcw polygon) f polygon [] (by omega)

end ScadVerif.TieTriLoop
