/-
Tie of the emitter's model (Model/Scad.lean) to the transcription of the text writers (`Gen/SrcEmit.lean`, regenerated
on every run): on `allPlain` trees every theorem about `Scad.emit` is one about what the transcribed `fmt` functions
write.

The source writes format strings where the model renders structured headers (`head_eq`).  The list writers meet in
`joinSep`: the source's index loops (`for i in 0..len-1 { write "{}," } write "{}]"`) compute it (`src_join`), as does
the model's rendering (`mod_join`).

`[OfNat ν 0]` only supplies the never-read default of the transcribed `getD i ⟨0, 0⟩`.
-/
import ScadVerif.Gen.SrcEmit
import ScadVerif.Gen.Enums
import ScadVerif.Model.Scad
namespace ScadVerif.TieEmit
open ScadVerif

variable {ν : Type} [OfNat ν 0] (showNum : ν → List Char)

def joinSep (sep : List Char) : List (List Char) → List Char
  | [] => []
  | [x] => x
  | x :: y :: r => x ++ sep ++ joinSep sep (y :: r)

theorem src_join {β : Type} (d : β) (g : β → List Char) (sep : List Char) :
    ∀ (l : List β), l ≠ [] →
      (List.range (l.length - 1)).flatMap (fun i => g (l.getD i d) ++ sep) ++ g (l.getD (l.length - 1) d)
        = joinSep sep (l.map g)
  | [], h => absurd rfl h
  | [x], _ => by simp [joinSep]
  | x :: y :: r, _ => by
    have ih := src_join d g sep (y :: r) (by simp)
    simp only [List.length_cons, Nat.add_sub_cancel] at ih ⊢
    rw [List.range_succ_eq_map, List.flatMap_cons, List.flatMap_map]
    simp only [List.getD_cons_zero, List.getD_cons_succ, List.map_cons, joinSep, List.append_assoc] at ih ⊢
    rw [← ih]

@[simp] theorem flatten_nil : flatten [] = [] := rfl

theorem mod_join (sp : Bool) : ∀ (vs : List Value),
    flatten (Value.piecesList sp vs)
      = joinSep (',' :: (if sp then [' '] else [])) (vs.map (fun v => flatten v.pieces))
  | [] => by simp [items_text_nil, joinSep]
  | [v] => by simp [items_text_one, joinSep]
  | v :: w :: r => by
    rw [items_text, mod_join sp (w :: r)]
    cases sp <;> simp [joinSep]

theorem pt2 (p : Pt2 ν) : Src.Pt2.fmt showNum p = flatten (vPt2 showNum p).pieces := by
  simp [Src.Pt2.fmt, vPt2, vNum, vec_text, items_text, items_text_one, num_text]
theorem pt3 (p : Pt3 ν) : Src.Pt3.fmt showNum p = flatten (vPt3 showNum p).pieces := by
  simp [Src.Pt3.fmt, vPt3, vNum, vec_text, items_text, items_text_one, num_text]
theorem pt4 (p : Pt4 ν) : Src.Pt4.fmt showNum p = flatten (vPt4 showNum p).pieces := by
  simp [Src.Pt4.fmt, vPt4, vNum, vec_text, items_text, items_text_one, num_text]
theorem u64 (n : Nat) : Src.fmt.u64 n = flatten (vNat n).pieces := (num_text _).symm
theorem bool (b : Bool) : Src.fmt.bool b = flatten (Value.bool b).pieces := (bool_text b).symm
theorem num (x : ν) : showNum x = flatten (vNum showNum x).pieces := (num_text _).symm

theorem scadStr (s : List Char) : Src.ScadStr.fmt s = flatten (Value.str s).pieces := by
  have h : (fun c : Char => if c = '\\' then ['\\', '\\'] else if c = '"' then ['\\', '"'] else if c = '\n' then ['\\', 'n']
      else if c = '\t' then ['\\', 't'] else if c = '\r' then ['\\', 'r'] else [c]) = escapeChar := by
    funext c; rfl
  simp [Src.ScadStr.fmt, str_text, escape, h]

/-- a list writer of the source against the model's `vec` rendering.  `sep` with `hsep` (`rfl` at every use), not the
`if` itself: the instance then has the source's literal `c!","` / `c!", "` and matches the unfolded writer as is. -/
theorem vec_eq {β : Type} (d : β) (g : β → List Char) (v : β → Value) (sp : Bool) (sep : List Char)
    (hsep : sep = ',' :: (if sp then [' '] else [])) (hg : ∀ x, g x = flatten (v x).pieces) (l : List β) :
    (if List.isEmpty l then ['[', ']'] else
      ['['] ++ ((List.range (l.length - 1)).flatMap (fun i => g (l.getD i d) ++ sep)) ++ g (l.getD (l.length - 1) d) ++ [']'])
      = flatten (Value.vec sp (l.map v)).pieces := by
  cases l with
  | nil => simp [vec_text, items_text_nil]
  | cons x r =>
    have hj := src_join d g sep (x :: r) (by simp)
    simp only [List.isEmpty_cons, Bool.false_eq_true, if_false, List.append_assoc]
    rw [← List.append_assoc ((List.range _).flatMap _), hj]
    simp only [vec_text, mod_join, List.map_map, List.singleton_append, hsep]
    congr 3
    apply List.map_congr_left
    intro a _
    exact hg a

theorem pt2s (ps : List (Pt2 ν)) : Src.Pt2s.fmt showNum ps = flatten (vPt2s showNum ps).pieces := by
  have h := vec_eq (⟨0, 0⟩ : Pt2 ν) (Src.Pt2.fmt showNum) (vPt2 showNum) false [','] rfl (pt2 showNum) ps
  simpa only [Src.Pt2s.fmt, vPt2s] using h
theorem pt3s (ps : List (Pt3 ν)) : Src.Pt3s.fmt showNum ps = flatten (vPt3s showNum ps).pieces := by
  have h := vec_eq (⟨0, 0, 0⟩ : Pt3 ν) (Src.Pt3.fmt showNum) (vPt3 showNum) false [','] rfl (pt3 showNum) ps
  simpa only [Src.Pt3s.fmt, vPt3s] using h
theorem indices (is : List Nat) : Src.Indices.fmt is = flatten (vIndices is).pieces := by
  unfold Src.Indices.fmt vIndices
  exact vec_eq 0 Src.fmt.u64 vNat true [',', ' '] rfl u64 is
theorem paths (ps : List (List Nat)) : Src.Paths.fmt ps = flatten (vPaths ps).pieces := by
  unfold Src.Paths.fmt vPaths
  exact vec_eq [] Src.Indices.fmt vIndices true [',', ' '] rfl indices ps

/-- the text `Scad.pieces` puts before the children -/
def modelHead (op : ScadOp ν) : List Char :=
  flatten (match op.header showNum with
    | some h => h.pieces ++ (if op.isPrimitive then [.tok .semi] else [.ws [' '], .tok .lbrace, .ws ['\n']])
    | none => [])

/-- The enum-valued fields are written with `{:?}` — the bare variant name in quotes — where the model prints a string;
they agree when the name needs no escaping.  No variant name of the regenerated tables does (`names_plain`), but no
lemma takes "the field is one of those names" to `opPlain`: it stays a hypothesis of every theorem about the
transcribed emitter. -/
def opPlain : ScadOp ν → Prop
  | .text _ _ _ halign valign _ direction _ _ _ => escape halign = halign ∧ escape valign = valign ∧ escape direction = direction
  | .color _ (some c) _ _ => escape c = c
  | _ => True

theorem names_plain :
    (∀ n ∈ Gen.colorNames, escape n = n) ∧ (∀ n ∈ Gen.halignNames, escape n = n) ∧
    (∀ n ∈ Gen.valignNames, escape n = n) ∧ (∀ n ∈ Gen.directionNames, escape n = n) := by
  decide +kernel

/-! In the source's format strings an optional field contributes `, name=value` or nothing; hence `flatten_args`:
every argument after the first preceded by `, `. -/
theorem flatten_args (a : Arg) : ∀ as : List Arg,
    flatten (argsPieces (a :: as)) = flatten a.pieces ++ as.flatMap fun b => c!", " ++ flatten b.pieces
  | [] => by simp [args_text_one]
  | b :: as => by rw [args_text, flatten_args b as]; simp

/-- `a :: as ++ bs` is `(a :: as) ++ bs`; as a rewrite rule `flatten_args` would need the cons exposed -/
theorem flatten_args_append (a : Arg) (as bs : List Arg) :
    flatten (argsPieces (a :: as ++ bs)) = flatten a.pieces ++ (as ++ bs).flatMap fun b => c!", " ++ flatten b.pieces :=
  flatten_args a (as ++ bs)

theorem scadStr_plain {s : List Char} (h : escape s = s) : Src.ScadStr.fmt s = c!"\"" ++ (s ++ c!"\"") := by
  rw [scadStr, str_text, h]

theorem tail_faFsFn (fa fs : Option ν) (fn : Option Nat) :
    ((faFsFn showNum fa fs fn).flatMap fun b => c!", " ++ flatten b.pieces) =
      (match fa with | some x => c!", $fa=" ++ showNum x | none => []) ++
      ((match fs with | some x => c!", $fs=" ++ showNum x | none => []) ++
      (match fn with | some n => c!", $fn=" ++ Src.fmt.u64 n | none => [])) := by
  cases fa <;> cases fs <;> cases fn <;> simp [faFsFn, named_text, ← num, ← u64]

theorem tail_optNat (n : List Char) (o : Option Nat) :
    ((optNat n o).flatMap fun b => c!", " ++ flatten b.pieces) =
      match o with | some k => c!", " ++ (n ++ (c!"=" ++ Src.fmt.u64 k)) | none => [] := by
  cases o <;> simp [optNat, named_text, ← u64]

/- `emit_simp` unfolds both sides, turns each printed value back into the source's writer for it and nests `++` to the
right (`↓`: root down, one rewrite per chunk; bottom-up, the source's left-nested chains take quadratically many).
What is left differs in where the literal chunks are cut and in the name of the auxiliary matcher on the optional
fields: `rfl`. -/
set_option hygiene false in
local macro "emit_simp" : tactic => `(tactic|
  simp only [Src.ScadOp.fmtHead, Src.ScadOp.fmtHead.circle, Src.ScadOp.fmtHead.square, Src.ScadOp.fmtHead.polygon, Src.ScadOp.fmtHead.import_, Src.ScadOp.fmtHead.projection, Src.ScadOp.fmtHead.sphere, Src.ScadOp.fmtHead.cube, Src.ScadOp.fmtHead.cylinder, Src.ScadOp.fmtHead.polyhedron, Src.ScadOp.fmtHead.linearExtrude, Src.ScadOp.fmtHead.rotateExtrude, Src.ScadOp.fmtHead.surface, Src.ScadOp.fmtHead.translate, Src.ScadOp.fmtHead.rotate, Src.ScadOp.fmtHead.scale, Src.ScadOp.fmtHead.resize, Src.ScadOp.fmtHead.mirror, Src.ScadOp.fmtHead.color, Src.ScadOp.fmtHead.offset, Src.ScadOp.fmtHead.minkowski,
    modelHead, ScadOp.header, flatten_append, header_text, flatten_args, flatten_args_append, named_text, pos_text,
    vec_text, items_text, items_text_one,
    List.flatMap_cons, List.flatMap_append, tail_faFsFn, tail_optNat,
    ← num, ← u64, ← bool, ← pt2, ← pt3, ← pt4, ← pt2s, ← pt3s, ← paths, ← scadStr,
    Src.Pt2.fmt, ↓ List.append_assoc, if_true, if_false,
    Bool.false_eq_true])

theorem head_eq (op : ScadOp ν) (hp : opPlain op) : Src.ScadOp.fmtHead showNum op = modelHead showNum op := by
  cases op
  case polygon _ paths _ => cases paths <;> emit_simp <;> rfl
  case rotate a sc _ => cases a <;> cases sc <;> emit_simp <;> rfl
  case resize isv _ _ =>
    cases isv <;> emit_simp <;> rfl
  case offset r d _ => cases r <;> cases d <;> emit_simp <;> rfl
  case color rgba col hex alpha =>
    cases rgba with
    | some _ => emit_simp; rfl
    | none =>
      cases col with
      | some c =>
        cases alpha <;> emit_simp <;> simp only [scadStr_plain (show escape c = c from hp), List.append_assoc] <;> rfl
      | none => cases hex <;> emit_simp <;> rfl
  case text fn =>
    simp only [Src.ScadOp.fmtHead]
    -- as a `simp` lemma this arm's unfolding is too slow to build: `delta` it
    delta Src.ScadOp.fmtHead.text
    emit_simp
    simp only [scadStr_plain hp.1, scadStr_plain hp.2.1, scadStr_plain hp.2.2, List.append_assoc]
    rfl
  all_goals (emit_simp; rfl)

mutual
def allPlain : Scad ν → Prop
  | .mk op cs => opPlain op ∧ allPlainList cs
def allPlainList : ScadList ν → Prop
  | .nil => True
  | .cons h t => allPlain h ∧ allPlainList t
end

theorem close_eq (op : ScadOp ν) :
    (if Src.ScadOp.openedBlock op then c!"}" else ([] : List Char))
      = flatten (if op.isPrimitive then [] else [.tok .rbrace]) := by
  cases op <;> rfl

mutual
/-- `impl Display for Scad`, transcribed, writes exactly the model's emission -/
theorem emit_eq : ∀ (t : Scad ν), allPlain t → Src.Scad.fmt showNum t = Scad.emit showNum t
  | .mk op cs, h => by
    have hl := emitList_eq cs h.2
    unfold Scad.emit at *
    rw [Src.Scad.fmt, Scad.pieces, flatten_append, flatten_append, flatten_append, head_eq showNum op h.1, hl, close_eq]
    rfl
theorem emitList_eq : ∀ (l : ScadList ν), allPlainList l →
    Src.ScadList.fmt showNum l = flatten (ScadList.pieces showNum l)
  | .nil, _ => rfl
  | .cons h t, hp => by
    have h1 := emit_eq h hp.1
    have h2 := emitList_eq t hp.2
    unfold Scad.emit at h1
    rw [Src.ScadList.fmt, ScadList.pieces, flatten_append, h1, h2]
end

end ScadVerif.TieEmit
