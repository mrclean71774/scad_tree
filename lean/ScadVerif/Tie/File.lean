/-
Tie of the file writers' model (Model/Scad.lean: `fileContent`, `saveContent`) to the transcription of what
`Scad::save` and the five `scad_file!` arms write (`Gen/SrcFile.lean`, regenerated on every run; the arms pinned token
for token up to their settings lines).  For C13.  File system and spawned thread stay outside: `File::create`
truncates, `write_all` appends exactly its bytes, the thread is joined.
-/
import ScadVerif.Gen.SrcFile
import ScadVerif.Tie.Emit
namespace ScadVerif.TieFile
open ScadVerif

variable {ν : Type} [OfNat ν 0] (showNum : ν → List Char)

theorem children_eq (cs : List (Scad ν)) (hp : ∀ c ∈ cs, TieEmit.allPlain c) :
    cs.flatMap (fun child => Src.Scad.fmt showNum child) = emitAll showNum cs := by
  rw [emitAll, List.flatMap_def, List.flatMap_def,
    List.map_congr_left fun c hc => TieEmit.emit_eq showNum c (hp c hc)]

theorem arm_plain (cs : List (Scad ν)) (hp : ∀ c ∈ cs, TieEmit.allPlain c) :
    Src.scadFile.armPlain showNum cs = fileContent showNum .none cs := by
  simp [Src.scadFile.armPlain, fileContent, Settings.lines, children_eq showNum cs hp]
theorem arm_fa (a : ν) (cs : List (Scad ν)) (hp : ∀ c ∈ cs, TieEmit.allPlain c) :
    Src.scadFile.armFa showNum a cs = fileContent showNum (.fa a) cs := by
  simp [Src.scadFile.armFa, fileContent, Settings.lines, children_eq showNum cs hp]
theorem arm_fs (s : ν) (cs : List (Scad ν)) (hp : ∀ c ∈ cs, TieEmit.allPlain c) :
    Src.scadFile.armFs showNum s cs = fileContent showNum (.fs s) cs := by
  simp [Src.scadFile.armFs, fileContent, Settings.lines, children_eq showNum cs hp]
theorem arm_fa_fs (a s : ν) (cs : List (Scad ν)) (hp : ∀ c ∈ cs, TieEmit.allPlain c) :
    Src.scadFile.armFaFs showNum a s cs = fileContent showNum (.faFs a s) cs := by
  simp [Src.scadFile.armFaFs, fileContent, Settings.lines, children_eq showNum cs hp]
theorem arm_fn (n : Nat) (cs : List (Scad ν)) (hp : ∀ c ∈ cs, TieEmit.allPlain c) :
    Src.scadFile.armFn showNum n cs = fileContent showNum (.fn n) cs := by
  simp [Src.scadFile.armFn, Src.fmt.u64, natDigits, fileContent, Settings.lines, children_eq showNum cs hp]

theorem save (t : Scad ν) (hp : TieEmit.allPlain t) : Src.Scad.save showNum t = saveContent showNum t := by
  unfold Src.Scad.save saveContent
  exact TieEmit.emit_eq showNum t hp

end ScadVerif.TieFile
