/-
The model of `Polyhedron` (Model/Dim3.lean) is the transcription of every function of `impl Polyhedron` in dim3.rs
(`Gen/SrcPolyhedron.lean`): transform methods and `into_scad(_with_convexity)` for every scalar type, by `rfl`; the
builders over ℝ.  Obligations of C04 and C05.

Triangle faces: index loops in the source (`(0..indices.len()).step_by(3)`, reading `indices[i]`, `[i+1]`, `[i+2]`),
`triFaces` chopping the index list in the model.  They agree on lists of whole triangles, which all outputs of the
ear-clipping loop are (C03 `triangulate_length`) — hence ℝ, where that theorem lives; C05 lends
`linearExtrude_eq_loft` and, for the offset of the sweep's end cap, `sweepRing_length`.  Rings and quad strips:
index loops in the source, `map`s over the profile / `strip`, `stripRev` in the model (`*_loop`).  Calls of the
ear-clipping entry points are transcribed as the model's `Tri.triangulate2d(Rev)` / `Tri.triangulate3d(Rev)`, tied
to their own transcriptions in Tie/Tri.lean.
-/
import ScadVerif.Gen.SrcPolyhedron
import ScadVerif.Lemmas.Fold
import ScadVerif.Props.C03
import ScadVerif.Props.C05
import ScadVerif.Tie.Geom
import ScadVerif.Tie.Math
set_option linter.unusedSectionVars false
namespace ScadVerif.TiePoly
open ScadVerif ScadVerif.Dim3 ScadVerif.Dim3.Polyhedron

section
variable {α : Type} [Add α] [Sub α] [Mul α] [Div α] [Neg α] [OfNat α 0] [OfNat α 1]
  [OfNatCast α] [Trig α] [HasSqrt α] [HasAbs α] [Cmp α]
theorem translate (p : Polyhedron α) (d : Pt3 α) : Src.Polyhedron.translate p d = p.translate d := rfl
theorem apply_matrix (p : Polyhedron α) (m : Mt4 α) : Src.Polyhedron.apply_matrix p m = p.applyMatrix m := rfl
theorem rotate_x (p : Polyhedron α) (d : α) : Src.Polyhedron.rotate_x p d = p.rotateX d := rfl
theorem rotate_y (p : Polyhedron α) (d : α) : Src.Polyhedron.rotate_y p d = p.rotateY d := rfl
theorem rotate_z (p : Polyhedron α) (d : α) : Src.Polyhedron.rotate_z p d = p.rotateZ d := rfl
theorem into_scad (p : Polyhedron α) :
    Src.Polyhedron.into_scad p = Scad.node (.polyhedron p.points p.faces 1) [] := rfl
theorem into_scad_with_convexity (p : Polyhedron α) (c : Nat) :
    Src.Polyhedron.into_scad_with_convexity p c = Scad.node (.polyhedron p.points p.faces c) [] := rfl
end

/-! ### index loops versus `triFaces` -/
theorem stepMap (off : Nat) : ∀ (k : Nat) (l : List Nat), l.length = 3 * k →
    List.map (fun i => [l.getD i 0 + off, l.getD (i + 1) 0 + off, l.getD (i + 2) 0 + off]) (List.range' 0 k 3) =
      triFaces off l
  | 0, l, h => by rw [List.length_eq_zero_iff.mp (show l.length = 0 by omega)]; rfl
  | k + 1, a :: b :: c :: r, h => by
    rw [List.range'_succ, Nat.add_comm 0 3, ← List.map_add_range' (a := 3), List.map_cons, List.map_map, triFaces,
      ← stepMap off k r (by simp only [List.length_cons] at h; omega)]
    refine congrArg _ (List.map_congr_left fun i _ => ?_)
    simp only [Function.comp, Nat.add_comm 3 i, Nat.add_right_comm i 3, List.getD_cons_succ]

theorem stepMap_triFaces (off : Nat) (l : List Nat) (k : Nat) (h : l.length = 3 * k) :
    List.map (fun i => [l.getD i 0 + off, l.getD (i + 1) 0 + off, l.getD (i + 2) 0 + off])
      (List.range' 0 ((l.length + 2) / 3) 3) = triFaces off l := by
  rw [h, show (3 * k + 2) / 3 = k by omega]
  exact stepMap off k l h

theorem stepMap_triFaces_zero (l : List Nat) (k : Nat) (h : l.length = 3 * k) :
    List.map (fun i => [l.getD i 0, l.getD (i + 1) 0, l.getD (i + 2) 0])
      (List.range' 0 ((l.length + 2) / 3) 3) = triFaces 0 l := by
  rw [← stepMap_triFaces 0 l k h]; simp only [Nat.add_zero]

theorem quadLoop_strip (n : Nat) :
    List.map (fun i => [i, (i + 1) % n, (i + 1) % n + n, i + n]) (List.range n) = strip n 0 1 := by
  unfold strip
  apply List.map_congr_left
  intro i _
  simp [Nat.add_comm]

/-- outputs of the ear-clipping entry points hold whole triangles (C03) -/
theorem tri2d_whole (vs : List (Pt2 ℝ)) (out : List Nat) (h : Tri.triangulate2d vs = some out) :
    ∃ k, out.length = 3 * k :=
  ⟨_, (Tri.tri2d_eq h).2 ▸ C03.triangulate_length _⟩
theorem tri2dRev_whole (vs : List (Pt2 ℝ)) (out : List Nat) (h : Tri.triangulate2dRev vs = some out) :
    ∃ k, out.length = 3 * k :=
  ⟨_, (Tri.tri2dRev_eq h).2 ▸ C03.triangulate_length _⟩
theorem tri3d_whole (vs : List (Pt3 ℝ)) (nml : Pt3 ℝ) (out : List Nat) (h : Tri.triangulate3d vs nml = some out) :
    ∃ k, out.length = 3 * k :=
  tri2d_whole _ out (Tri.tri3d_eq h)
theorem tri3dRev_whole (vs : List (Pt3 ℝ)) (nml : Pt3 ℝ) (out : List Nat) (h : Tri.triangulate3dRev vs nml = some out) :
    ∃ k, out.length = 3 * k :=
  tri2dRev_whole _ out (Tri.tri3dRev_eq h)

/-! ### the mesh builders (over ℝ) -/
theorem loft (lower upper : List (Pt2 ℝ)) (height : ℝ) :
    Src.Polyhedron.loft lower upper height = Dim3.Polyhedron.loft lower upper height := by
  unfold Src.Polyhedron.loft Dim3.Polyhedron.loft
  by_cases hl : lower.length = upper.length
  · simp only [hl, decide_true, Bool.not_true, Bool.false_eq_true, if_false, ne_eq, not_true_eq_false,
      Option.bind_eq_bind, Option.pure_def, List.nil_append, quadLoop_strip]
    refine Option.bind_congr fun b hb => Option.bind_congr fun t ht => ?_
    obtain ⟨kb, hkb⟩ := tri2dRev_whole lower b hb
    obtain ⟨kt, hkt⟩ := tri2d_whole upper t ht
    rw [stepMap_triFaces_zero b kb hkb, stepMap_triFaces _ t kt hkt]
    rfl
  · simp [hl]

theorem linear_extrude (pts : List (Pt2 ℝ)) (height : ℝ) :
    Src.Polyhedron.linear_extrude pts height = linearExtrude pts height := by
  -- in the source too it is the loft of the profile with itself: the length check passes, the rest is the same text
  rw [C05.linearExtrude_eq_loft, ← loft]
  simp only [Src.Polyhedron.linear_extrude, Src.Polyhedron.loft, decide_true, Bool.not_true, Bool.false_eq_true,
    if_false]

theorem cylinder (radius height : ℝ) (segments : Nat) :
    Src.Polyhedron.cylinder radius height segments = Dim3.Polyhedron.cylinder radius height segments := by
  unfold Src.Polyhedron.cylinder Dim3.Polyhedron.cylinder
  simp only [TieGeom.circle, Option.bind_eq_bind]
  cases Dim2.circle radius segments with
  | none => rfl
  | some c => simp only [Option.bind_some]; exact linear_extrude c height

/-! ### rotate_extrude -/
theorem ring_loop (profile : List (Pt3 ℝ)) (a : ℝ) (k : Nat) :
    (List.map (fun p => (⟨(profile.getD p ⟨0, 0, 0⟩).x * Src.dcos (a * (cast k : ℝ)),
        (profile.getD p ⟨0, 0, 0⟩).x * Src.dsin (a * (cast k : ℝ)), (profile.getD p ⟨0, 0, 0⟩).z⟩ : Pt3 ℝ))
      (List.range profile.length)) = revolveRing profile a k :=
  map_range_getD profile (⟨0, 0, 0⟩ : Pt3 ℝ)
    (fun q => (⟨q.x * Src.dcos (a * (cast k : ℝ)), q.x * Src.dsin (a * (cast k : ℝ)), q.z⟩ : Pt3 ℝ))

theorem stripRev_loop (n a b : Nat) :
    List.map (fun p => [a * n + p, b * n + p, b * n + (p + 1) % n, a * n + (p + 1) % n]) (List.range n) =
      stripRev n a b := rfl
theorem strip_loop (n a b : Nat) :
    List.map (fun p => [a * n + p, a * n + (p + 1) % n, b * n + (p + 1) % n, b * n + p]) (List.range n) =
      strip n a b := rfl

theorem rotate_extrude (profile : List (Pt2 ℝ)) (degrees : ℝ) (segments : Nat) :
    Src.Polyhedron.rotate_extrude profile degrees segments = rotateExtrude profile degrees segments := by
  unfold Src.Polyhedron.rotate_extrude rotateExtrude
  simp only [Option.bind_eq_bind, Option.pure_def, Tie.Pt3_new, flatMap_range', ring_loop, stripRev_loop,
    Nat.add_sub_cancel, List.nil_append]
  cases hd : (Cmp.leb 0 degrees && Cmp.leb degrees (lit 360 : ℝ)) with
  | false => rfl
  | true =>
  by_cases hs : 3 ≤ segments
  swap
  · simp only [hs, Nat.not_le.mp hs, decide_false, Bool.not_false, Bool.not_true, Bool.false_eq_true, if_true, if_false]
    rfl
  simp only [hs, Nat.not_lt.mpr hs, decide_true, Bool.not_true, Bool.false_eq_true, if_false]
  cases hc : Cmp.eqb degrees (lit 360 : ℝ) with
  | true => simp only [Bool.not_true, Bool.false_eq_true, if_false, Option.bind_some, List.nil_append]
  | false =>
    simp only [Bool.not_false, if_true, Option.bind_assoc, Option.bind_some, Option.bind_map, Function.comp_def,
      List.nil_append]
    refine Option.bind_congr fun t1 h1 => ?_
    obtain ⟨k1, hk1⟩ := tri3d_whole _ _ t1 h1
    refine Option.bind_congr fun t2 h2 => ?_
    obtain ⟨k2, hk2⟩ := tri3dRev_whole _ _ t2 h2
    simp only [stepMap_triFaces_zero t1 k1 hk1, stepMap_triFaces _ t2 k2 hk2]

/-! ### sweep -/
theorem sweepRing_loop (profile : List (Pt3 ℝ)) (m : Mt4 ℝ) (t : ℝ) (at_ : Pt3 ℝ) :
    List.map (fun i => Src.Pt3.add (Src.Pt4.as_pt3 (Src.Mt4.mul_Pt4 m
        (Src.Pt3.as_pt4 (Src.Pt3.rotated_z (profile.getD i ⟨0, 0, 0⟩) t) 0))) at_) (List.range profile.length) =
      sweepRing profile m (some t) 0 at_ :=
  map_range_getD profile (⟨0, 0, 0⟩ : Pt3 ℝ)
    (fun q => Src.Pt3.add (Src.Pt4.as_pt3 (Src.Mt4.mul_Pt4 m (Src.Pt3.as_pt4 (Src.Pt3.rotated_z q t) 0))) at_)

/-- `sweep` for a path of at least two points (shorter paths index out of range in the source and are
`none` in the model) -/
theorem sweep (profile : List (Pt2 ℝ)) (path : List (Pt3 ℝ)) (twist : ℝ) (closed : Bool) (hlen : 2 ≤ path.length) :
    Src.Polyhedron.sweep profile path twist closed = Dim3.Polyhedron.sweep profile path twist closed := by
  unfold Src.Polyhedron.sweep Dim3.Polyhedron.sweep
  have hl : ¬ path.length < 2 := by omega
  have hsub : ∀ a b : Pt3 ℝ, Src.Pt3.sub a b = Pt3.sub a b := fun _ _ => rfl
  have hfirst : ∀ (prof : List (Pt3 ℝ)) (m : Mt4 ℝ) (a : Pt3 ℝ), List.map (fun p => Src.Pt3.add (Src.Pt4.as_pt3 (Src.Mt4.mul_Pt4 m (Src.Pt3.as_pt4 p 1))) a) prof = sweepRing prof m none 1 a := fun _ _ _ => rfl
  simp only [Option.bind_eq_bind, Option.pure_def, hl, if_false, Option.bind_some, List.nil_append, Tie.Pt3_new,
    Tie.Pt2_as_pt3, hsub, Tie.Mt4_look_at_matrix_lh, hfirst, flatMap_range', sweepRing_loop, strip_loop,
    Nat.add_sub_cancel, Nat.sub_sub, Nat.reduceAdd]
  cases closed with
  | true => simp only [Bool.not_true, Bool.false_eq_true, if_false, if_true, Option.bind_some, List.nil_append]
  | false =>
    simp only [Bool.not_false, if_true, Bool.false_eq_true, if_false, Option.bind_assoc, Option.bind_some,
      Option.bind_map, Function.comp_def]
    refine Option.bind_congr fun t1 h1 => ?_
    obtain ⟨k1, hk1⟩ := tri3dRev_whole _ _ t1 h1
    refine Option.bind_congr fun t2 h2 => ?_
    obtain ⟨k2, hk2⟩ := tri3d_whole _ _ t2 h2
    -- the end cap's offset: `indices[i] + points.len() - profile_len` with points.len() = len · n
    have hoff (x n : Nat) : x + (n + (path.length - 2) * n + n) - n = x + (path.length - 1) * n := by
      rw [← Nat.add_assoc x, Nat.add_sub_cancel, show path.length - 1 = path.length - 2 + 1 by omega, Nat.succ_mul,
        Nat.add_comm n]
    simp only [stepMap_triFaces_zero t1 k1 hk1, List.length_append, C05.sweepRing_length,
      flatMap_length_const _ _ _ (fun x _ => C05.sweepRing_length _ _ _ _ _), List.length_range, hoff,
      stepMap_triFaces _ t2 k2 hk2]

end ScadVerif.TiePoly
