/-
Tie between the Mersenne Twister model (Model/Rng.lean, over `Array UInt32`, with the range maps) and the
transcription of `MersenneTwister::{next, u32, with_seed, f32_0_1, i32_minmax, f32_minmax, f64_minmax}` from rng.rs
(`Gen/SrcRng.lean`; the counted `while` loops, two in `next`, one in `with_seed`, are folds over their index ranges).
Obligations of C19.  Each range map is tied as one draw with the transcribed `next`, then the model's map, without
guard: Lean's `Int32` wraps where a debug build of `i32_minmax` panics on overflow.

Beyond unfolding: the source folds over the generator (`self`) and the index range `a..a+n`, the model over the
buffer and `range n` (`loop_buf`); the source indexes the table `mag[(y & 1) as usize]`, the model branches on the bit
(`mag_eq`); the second loop computes its source index in `i64` (`kk + (M - N)`), the model in naturals;
`seed & 0xffffffff` and `((6069 * x as usize) & 0xffffffff) as u32` are the identity and the wrapping product on
32-bit words.
-/
import ScadVerif.Gen.SrcRng
import ScadVerif.Model.Rng
import ScadVerif.Lemmas.Fold
namespace ScadVerif.TieRng
open ScadVerif ScadVerif.Rng

theorem fold_buf {ι : Type} (g : MT → ι → MT) (f : Array UInt32 → ι → Array UInt32) :
    ∀ (l : List ι) (s : MT), (∀ (s : MT) (k : ι), k ∈ l → g s k = ⟨f s.buf k, s.index⟩) →
      l.foldl g s = ⟨l.foldl f s.buf, s.index⟩ :=
  fun _ s h => List.foldl_rel (r := fun t b => t = (⟨b, s.index⟩ : MT)) rfl fun k hk t _ e => by rw [h t k hk, e]

theorem loop_buf (g : MT → Nat → MT) (f : Array UInt32 → Nat → Array UInt32) (a n : Nat) (s : MT)
    (h : ∀ (s : MT) (j : Nat), j < n → g s (j + a) = ⟨f s.buf j, s.index⟩) :
    (List.range' a n).foldl g s = ⟨(List.range n).foldl f s.buf, s.index⟩ := by
  rw [foldl_range']
  exact fold_buf _ f _ s fun s j hj => h s j (List.mem_range.mp hj)

/-! The transcription writes rng.rs's hexadecimal constants in decimal: 2567483615 = 0x9908b0df (`mag[1]`),
2147483648 / 2147483647 = `UPPER_MASK` / `LOWER_MASK`, 4294967295 = 0xffffffff. -/
theorem mag_eq (y : UInt32) :
    Array.getD (#[0, 2567483615] : Array UInt32) (UInt32.toNat (y &&& 1)) 0
      = if y &&& 1 = 0 then 0 else Gen.mtMatrixA := by
  have hle : (y &&& 1).toNat ≤ 1 := by
    rw [UInt32.toNat_and]; exact Nat.and_le_right
  by_cases h0 : y &&& 1 = 0
  · rw [if_pos h0, h0]; rfl
  · rw [if_neg h0]
    have h1 : (y &&& 1).toNat = 1 := by
      have : (y &&& 1).toNat ≠ 0 := fun hz => h0 (UInt32.toNat_inj.mp (by rw [hz]; rfl))
      omega
    rw [h1]; rfl

/-- one regeneration step of the source, written with the model's `twist` -/
theorem step_eq (b : Array UInt32) (k src nxt : Nat) :
    Array.setIfInBounds b k
        ((Array.getD b src 0 ^^^ (((Array.getD b k 0 &&& 2147483648) ||| (Array.getD b nxt 0 &&& 2147483647)) >>> 1))
          ^^^ Array.getD (#[0, 2567483615] : Array UInt32)
            (UInt32.toNat (((Array.getD b k 0 &&& 2147483648) ||| (Array.getD b nxt 0 &&& 2147483647)) &&& 1)) 0)
      = wr b k (rd b src ^^^ twist (rd b k) (rd b nxt)) := by
  rw [mag_eq, UInt32.xor_assoc]
  rfl

theorem and_all_ones (x : UInt32) : x &&& 4294967295 = x := by
  have : (4294967295 : UInt32) = -1 := by decide
  rw [this]; exact UInt32.and_neg_one

theorem seed_mul (x : UInt32) : Nat.toUInt32 ((6069 * UInt32.toNat x) &&& 4294967295) = Gen.mtSeedMul * x := by
  apply UInt32.toNat_inj.mp
  have h : (4294967295 : Nat) = 2 ^ 32 - 1 := by decide
  rw [h, Nat.and_two_pow_sub_one_eq_mod, UInt32.toNat_mul]
  simp [Gen.mtSeedMul]

theorem with_seed (seed : UInt32) : Src.MersenneTwister.with_seed seed = Rng.withSeed seed := by
  unfold Src.MersenneTwister.with_seed Rng.withSeed
  simp only [Gen.mtN, and_all_ones]
  rw [loop_buf _ (fun b j => wr b (j + 1) (Gen.mtSeedMul * rd b j))]
  · dsimp only
    rw [if_pos (by decide)]
  · intro s k _
    simp only [seed_mul, Nat.add_sub_cancel]
    rfl

theorem next (mt : MT) : Src.MersenneTwister.next mt = Rng.next mt := by
  unfold Src.MersenneTwister.next Rng.next Rng.regen
  simp only [Gen.mtN, Gen.mtM]
  by_cases h : 624 ≤ mt.index
  · simp only [h, decide_true, if_true, Nat.reduceSub, Nat.reduceLT, Nat.sub_zero]
    -- first loop: kk in 0..227
    rw [loop_buf _ (fun b kk => wr b kk (rd b (kk + 397) ^^^ twist (rd b kk) (rd b (kk + 1)))) 0 227 mt
      (by intro s k _; simp only [step_eq, Nat.add_zero])]
    -- second loop: kk in 227..623, the source index computed in i64
    rw [loop_buf _ (fun b j =>
        let kk := j + 227
        wr b kk (rd b (kk + 397 - 624) ^^^ twist (rd b kk) (rd b (kk + 1)))) 227 396 _
      (by
        intro s j _
        have : Int.toNat (((j + 227 : Nat) : Int) + ((397 : Nat) - (624 : Nat) : Int)) = j + 227 + 397 - 624 := by omega
        simp only [this, step_eq])]
    dsimp only
    simp only [step_eq]
    rfl
  · simp only [h, decide_false, if_false, Bool.false_eq_true]
    rfl

theorem u32 (mt : MT) : Src.MersenneTwister.u32 mt = Rng.next mt := next mt

/-- the model's `outputs` unfolded with the transcribed `next` in it, for Props/SrcC19 -/
theorem outputs_eq : ∀ (n : Nat) (mt : MT),
    Rng.outputs n mt = (match n with
      | 0 => []
      | n + 1 => (Src.MersenneTwister.next mt).1 :: Rng.outputs n (Src.MersenneTwister.next mt).2)
  | 0, _ => rfl
  | n + 1, mt => by rw [next]; rfl

/-! the range maps: Lean's `Float32` (IEEE single precision), the same operations in the same order -/
theorem f32_0_1 (mt : MT) :
    Src.MersenneTwister.f32_0_1 mt = (Rng.f32_0_1 (Rng.next mt).1, (Rng.next mt).2) := by
  unfold Src.MersenneTwister.f32_0_1
  rw [next]; rfl
theorem i32_minmax (mt : MT) (min max : Int32) :
    Src.MersenneTwister.i32_minmax mt min max = (Rng.i32Minmax (Rng.next mt).1 min max, (Rng.next mt).2) := by
  unfold Src.MersenneTwister.i32_minmax
  rw [f32_0_1]; rfl
theorem f32_minmax (mt : MT) (min max : Float32) :
    Src.MersenneTwister.f32_minmax mt min max = (Rng.f32Minmax (Rng.next mt).1 min max, (Rng.next mt).2) := by
  unfold Src.MersenneTwister.f32_minmax
  rw [f32_0_1]; rfl
theorem f64_minmax (mt : MT) (min max : Float) :
    Src.MersenneTwister.f64_minmax mt min max = (Rng.f64Minmax (Rng.next mt).1 min max, (Rng.next mt).2) := by
  unfold Src.MersenneTwister.f64_minmax
  rw [f32_0_1]; rfl

end ScadVerif.TieRng
