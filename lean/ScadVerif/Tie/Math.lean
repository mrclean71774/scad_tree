/-
Tie between the model and the source of scad_tree_math: each transcription in `Gen/MathSrc.lean`
(regenerated from the crate on every run) *is* the model's definition, for every scalar type with the twelve
instances of the `variable` line (each theorem takes all twelve, used or not).  No algebraic law is used: the
equalities hold for `Float` as for ℝ.  Obligations of C05, C07–C12.

Not here: `Mt4::inverse` (Gen/Mt4Cof.lean, used by the model directly), the `Display` impls and the `Vec`
wrappers (`Src.skipped`); `perspective_matrix`, `look_at_matrix_rh`, `rotation_from_direction` and the
derived `==` (`Src.*.beq`) are transcribed but have no model definition to equal.

All `rfl`, but the index functions first need a case split on the index (a `match` on a variable index does
not reduce), and `Pt3s_from_pt2s` the removal of the transcribed push loop's `[] ++`.
-/
import ScadVerif.Gen.MathSrc
set_option linter.unusedSectionVars false
namespace ScadVerif.Tie
open ScadVerif

variable {α : Type} [Add α] [Sub α] [Mul α] [Div α] [Neg α] [OfNat α 0] [OfNat α 1]
  [OfNatCast α] [Trig α] [HasSqrt α] [HasAbs α] [Cmp α]

/-! ### lib.rs -/
theorem dsin (d : α) : Src.dsin d = ScadVerif.dsin d := rfl
theorem dcos (d : α) : Src.dcos d = ScadVerif.dcos d := rfl
theorem dtan (d : α) : Src.dtan d = ScadVerif.dtan d := rfl
theorem dasin (x : α) : Src.dasin x = ScadVerif.dasin x := rfl
theorem dacos (x : α) : Src.dacos x = ScadVerif.dacos x := rfl
theorem datan (x : α) : Src.datan x = ScadVerif.datan x := rfl
theorem approx_eq (a b e : α) : Src.approx_eq a b e = approxEq a b e := rfl

/-! ### pt2.rs -/
theorem Pt2_new (x y : α) : Src.Pt2.new x y = ⟨x, y⟩ := rfl
theorem Pt2_add (a b : Pt2 α) : Src.Pt2.add a b = a + b := rfl
theorem Pt2_sub (a b : Pt2 α) : Src.Pt2.sub a b = a - b := rfl
theorem Pt2_mul (a : Pt2 α) (k : α) : Src.Pt2.mul_f64 a k = a * k := rfl
theorem Pt2_div (a : Pt2 α) (k : α) : Src.Pt2.div_f64 a k = a / k := rfl
theorem Pt2_neg (a : Pt2 α) : Src.Pt2.neg a = -a := rfl
theorem Pt2_add_assign (a b : Pt2 α) : Src.Pt2.add_assign a b = a + b := rfl
theorem Pt2_sub_assign (a b : Pt2 α) : Src.Pt2.sub_assign a b = a - b := rfl
theorem Pt2_mul_assign (a : Pt2 α) (k : α) : Src.Pt2.mul_assign_f64 a k = a * k := rfl
theorem Pt2_div_assign (a : Pt2 α) (k : α) : Src.Pt2.div_assign_f64 a k = a / k := rfl
theorem Pt2_index (a : Pt2 α) (i : Nat) : Src.Pt2.index a i = Pt2.get? a i := by
  rcases i with _|_|i <;> rfl
theorem Pt2_index_set (a : Pt2 α) (i : Nat) (v : α) : Src.Pt2.index_set a i v = Pt2.set? a i v := by
  rcases i with _|_|i <;> rfl
theorem Pt2_dot (a b : Pt2 α) : Src.Pt2.dot a b = Pt2.dot a b := rfl
theorem Pt2_len2 (a : Pt2 α) : Src.Pt2.len2 a = Pt2.len2 a := rfl
theorem Pt2_len (a : Pt2 α) : Src.Pt2.len a = Pt2.len a := rfl
theorem Pt2_normalize (a : Pt2 α) : Src.Pt2.normalize a = Pt2.normalize a := rfl
theorem Pt2_normalized (a : Pt2 α) : Src.Pt2.normalized a = Pt2.normalized a := rfl
theorem Pt2_rotated (a : Pt2 α) (d : α) : Src.Pt2.rotated a d = Pt2.rotated a d := rfl
theorem Pt2_rotate (a : Pt2 α) (d : α) : Src.Pt2.rotate a d = Pt2.rotated a d := rfl
theorem Pt2_lerp (a b : Pt2 α) (t : α) : Src.Pt2.lerp a b t = Pt2.lerp a b t := rfl
theorem Pt2_to_xz (a : Pt2 α) : Src.Pt2.to_xz a = Pt2.toXz a := rfl
theorem Pt2_as_pt3 (a : Pt2 α) (z : α) : Src.Pt2.as_pt3 a z = Pt2.asPt3 a z := rfl
theorem Pt2s_translate (ps : List (Pt2 α)) (d : Pt2 α) : Src.Pt2s.translate ps d = Pt2s.translate ps d := rfl
theorem Pt2s_rotate (ps : List (Pt2 α)) (d : α) : Src.Pt2s.rotate ps d = Pt2s.rotate ps d := rfl

/-! ### pt3.rs -/
theorem Pt3_new (x y z : α) : Src.Pt3.new x y z = ⟨x, y, z⟩ := rfl
theorem Pt3_add (a b : Pt3 α) : Src.Pt3.add a b = a + b := rfl
theorem Pt3_sub (a b : Pt3 α) : Src.Pt3.sub a b = a - b := rfl
theorem Pt3_mul (a : Pt3 α) (k : α) : Src.Pt3.mul_f64 a k = a * k := rfl
theorem Pt3_div (a : Pt3 α) (k : α) : Src.Pt3.div_f64 a k = a / k := rfl
theorem Pt3_neg (a : Pt3 α) : Src.Pt3.neg a = -a := rfl
theorem Pt3_add_assign (a b : Pt3 α) : Src.Pt3.add_assign a b = a + b := rfl
theorem Pt3_sub_assign (a b : Pt3 α) : Src.Pt3.sub_assign a b = a - b := rfl
theorem Pt3_mul_assign (a : Pt3 α) (k : α) : Src.Pt3.mul_assign_f64 a k = a * k := rfl
theorem Pt3_div_assign (a : Pt3 α) (k : α) : Src.Pt3.div_assign_f64 a k = a / k := rfl
theorem Pt3_index (a : Pt3 α) (i : Nat) : Src.Pt3.index a i = Pt3.get? a i := by
  rcases i with _|_|_|i <;> rfl
theorem Pt3_index_set (a : Pt3 α) (i : Nat) (v : α) : Src.Pt3.index_set a i v = Pt3.set? a i v := by
  rcases i with _|_|_|i <;> rfl
theorem Pt3_dot (a b : Pt3 α) : Src.Pt3.dot a b = Pt3.dot a b := rfl
theorem Pt3_cross (a b : Pt3 α) : Src.Pt3.cross a b = Pt3.cross a b := rfl
theorem Pt3_len2 (a : Pt3 α) : Src.Pt3.len2 a = Pt3.len2 a := rfl
theorem Pt3_len (a : Pt3 α) : Src.Pt3.len a = Pt3.len a := rfl
theorem Pt3_normalize (a : Pt3 α) : Src.Pt3.normalize a = Pt3.normalize a := rfl
theorem Pt3_normalized (a : Pt3 α) : Src.Pt3.normalized a = Pt3.normalized a := rfl
theorem Pt3_rotated_x (a : Pt3 α) (d : α) : Src.Pt3.rotated_x a d = Pt3.rotatedX a d := rfl
theorem Pt3_rotated_y (a : Pt3 α) (d : α) : Src.Pt3.rotated_y a d = Pt3.rotatedY a d := rfl
theorem Pt3_rotated_z (a : Pt3 α) (d : α) : Src.Pt3.rotated_z a d = Pt3.rotatedZ a d := rfl
theorem Pt3_rotate_x (a : Pt3 α) (d : α) : Src.Pt3.rotate_x a d = Pt3.rotatedX a d := rfl
theorem Pt3_rotate_y (a : Pt3 α) (d : α) : Src.Pt3.rotate_y a d = Pt3.rotatedY a d := rfl
theorem Pt3_rotate_z (a : Pt3 α) (d : α) : Src.Pt3.rotate_z a d = Pt3.rotatedZ a d := rfl
theorem Pt3_lerp (a b : Pt3 α) (t : α) : Src.Pt3.lerp a b t = Pt3.lerp a b t := rfl
theorem Pt3_as_pt4 (a : Pt3 α) (w : α) : Src.Pt3.as_pt4 a w = Pt3.asPt4 a w := rfl
theorem Pt3s_from_pt2s (ps : List (Pt2 α)) (z : α) : Src.Pt3s.from_pt2s ps z = Pt3s.fromPt2s ps z := by
  simp only [Src.Pt3s.from_pt2s, Pt3s.fromPt2s, List.nil_append]; rfl
theorem Pt3s_translate (ps : List (Pt3 α)) (d : Pt3 α) : Src.Pt3s.translate ps d = Pt3s.translate ps d := rfl
theorem Pt3s_rotate_x (ps : List (Pt3 α)) (d : α) : Src.Pt3s.rotate_x ps d = Pt3s.rotateX ps d := rfl
theorem Pt3s_rotate_y (ps : List (Pt3 α)) (d : α) : Src.Pt3s.rotate_y ps d = Pt3s.rotateY ps d := rfl
theorem Pt3s_rotate_z (ps : List (Pt3 α)) (d : α) : Src.Pt3s.rotate_z ps d = Pt3s.rotateZ ps d := rfl
theorem Pt3s_apply_matrix (ps : List (Pt3 α)) (m : Mt4 α) : Src.Pt3s.apply_matrix ps m = Mt4.applyMatrix ps m := rfl

/-! ### pt4.rs -/
theorem Pt4_new (x y z w : α) : Src.Pt4.new x y z w = ⟨x, y, z, w⟩ := rfl
theorem Pt4_add (a b : Pt4 α) : Src.Pt4.add a b = a + b := rfl
theorem Pt4_sub (a b : Pt4 α) : Src.Pt4.sub a b = a - b := rfl
theorem Pt4_mul (a : Pt4 α) (k : α) : Src.Pt4.mul_f64 a k = a * k := rfl
theorem Pt4_div (a : Pt4 α) (k : α) : Src.Pt4.div_f64 a k = a / k := rfl
theorem Pt4_neg (a : Pt4 α) : Src.Pt4.neg a = -a := rfl
theorem Pt4_add_assign (a b : Pt4 α) : Src.Pt4.add_assign a b = a + b := rfl
theorem Pt4_sub_assign (a b : Pt4 α) : Src.Pt4.sub_assign a b = a - b := rfl
theorem Pt4_mul_assign (a : Pt4 α) (k : α) : Src.Pt4.mul_assign_f64 a k = a * k := rfl
theorem Pt4_div_assign (a : Pt4 α) (k : α) : Src.Pt4.div_assign_f64 a k = a / k := rfl
theorem Pt4_index (a : Pt4 α) (i : Nat) : Src.Pt4.index a i = Pt4.get? a i := by
  rcases i with _|_|_|_|i <;> rfl
theorem Pt4_index_set (a : Pt4 α) (i : Nat) (v : α) : Src.Pt4.index_set a i v = Pt4.set? a i v := by
  rcases i with _|_|_|_|i <;> rfl
theorem Pt4_dot (a b : Pt4 α) : Src.Pt4.dot a b = Pt4.dot a b := rfl
theorem Pt4_cross (a b : Pt4 α) : Src.Pt4.cross a b = Pt4.cross a b := rfl
theorem Pt4_len2 (a : Pt4 α) : Src.Pt4.len2 a = Pt4.len2 a := rfl
theorem Pt4_len (a : Pt4 α) : Src.Pt4.len a = Pt4.len a := rfl
theorem Pt4_normalize (a : Pt4 α) : Src.Pt4.normalize a = Pt4.normalize a := rfl
theorem Pt4_normalized (a : Pt4 α) : Src.Pt4.normalized a = Pt4.normalized a := rfl
theorem Pt4_lerp (a b : Pt4 α) (t : α) : Src.Pt4.lerp a b t = Pt4.lerp a b t := rfl
theorem Pt4_as_pt3 (a : Pt4 α) : Src.Pt4.as_pt3 a = Pt4.asPt3 a := rfl

/-! ### mt4.rs -/
theorem dot4 (a b : Pt4 α) : Src.dot4 a b = Pt4.dot4 a b := rfl
theorem Mt4_new (x y z w : Pt4 α) : Src.Mt4.new x y z w = ⟨x, y, z, w⟩ := rfl
theorem Mt4_transposed (m : Mt4 α) : Src.Mt4.transposed m = Mt4.transposed m := rfl
theorem Mt4_identity : (Src.Mt4.identity : Mt4 α) = Mt4.identity := rfl
theorem Mt4_scale_matrix (x y z : α) : Src.Mt4.scale_matrix x y z = Mt4.scaleMatrix x y z := rfl
theorem Mt4_translate_matrix (x y z : α) : Src.Mt4.translate_matrix x y z = Mt4.translateMatrix x y z := rfl
theorem Mt4_rot_x_matrix (d : α) : Src.Mt4.rot_x_matrix d = Mt4.rotXMatrix d := rfl
theorem Mt4_rot_y_matrix (d : α) : Src.Mt4.rot_y_matrix d = Mt4.rotYMatrix d := rfl
theorem Mt4_rot_z_matrix (d : α) : Src.Mt4.rot_z_matrix d = Mt4.rotZMatrix d := rfl
theorem Mt4_rot_vec (x y z d : α) : Src.Mt4.rot_vec x y z d = Mt4.rotVec x y z d := rfl
theorem Mt4_mul_Pt4 (m : Mt4 α) (p : Pt4 α) : Src.Mt4.mul_Pt4 m p = m * p := rfl
theorem Mt4_mul_Pt3 (m : Mt4 α) (p : Pt3 α) : Src.Mt4.mul_Pt3 m p = Mt4.mulPt3 m p := rfl
theorem Mt4_mul_Mt4 (a b : Mt4 α) : Src.Mt4.mul_Mt4 a b = a * b := rfl
theorem Mt4_look_at_matrix_lh (eye center up : Pt3 α) :
    Src.Mt4.look_at_matrix_lh eye center up = Mt4.lookAtLh eye center up := rfl
theorem Mt4_index (m : Mt4 α) (i : Nat) : Src.Mt4.index m i = Mt4.get? m i :=
  match i with
  | 0 | 1 | 2 | 3 | 4 | 5 | 6 | 7 | 8 | 9 | 10 | 11 | 12 | 13 | 14 | 15 => rfl
  | _ + 16 => (if_neg (by omega)).symm
theorem Mt4_index_set (m : Mt4 α) (i : Nat) (v : α) : Src.Mt4.index_set m i v = Mt4.set? m i v :=
  match i with
  | 0 | 1 | 2 | 3 | 4 | 5 | 6 | 7 | 8 | 9 | 10 | 11 | 12 | 13 | 14 | 15 => rfl
  | _ + 16 => (if_neg (by omega)).symm

end ScadVerif.Tie
