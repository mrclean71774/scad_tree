/-
Tie between the model of the 2D generators and Bézier samplers (Model/Dim2.lean, Model/Dim3.lean) and the
transcription of the free functions of dim2.rs / dim3.rs (`Gen/SrcDim2.lean`, `Gen/SrcDim3.lean`,
regenerated on every run).  Obligations of C07 and C08.  As in Tie/Math.lean: any scalar type with the
instances of the `variable` line (each theorem takes all of them), unfolding alone.
-/
import ScadVerif.Gen.SrcDim2
import ScadVerif.Gen.SrcDim3
import ScadVerif.Model.Dim2
import ScadVerif.Model.Dim3
set_option linter.unusedSectionVars false
namespace ScadVerif.TieGeom
open ScadVerif

variable {α : Type} [Add α] [Sub α] [Mul α] [Div α] [Neg α] [OfNat α 0] [OfNat α 1]
  [OfNatCast α] [Trig α] [HasSqrt α] [HasAbs α] [Cmp α]

theorem arc (start : Pt2 α) (degrees : α) (segments : Nat) :
    Src.dim2.arc start degrees segments = Dim2.arc start degrees segments := rfl
theorem circle (radius : α) (segments : Nat) : Src.dim2.circle radius segments = Dim2.circle radius segments := rfl
theorem inscribed_polygon (n : Nat) (radius : α) :
    Src.dim2.inscribed_polygon n radius = Dim2.inscribedPolygon n radius := rfl
theorem circumscribed_polygon (n : Nat) (radius : α) :
    Src.dim2.circumscribed_polygon n radius = Dim2.circumscribedPolygon n radius := rfl
theorem rounded_rect (w h r : α) (segments : Nat) (center : Bool) :
    Src.dim2.rounded_rect w h r segments center = Dim2.roundedRect w h r segments center := rfl
theorem chamfer (size oversize : α) : Src.dim2.chamfer size oversize = Dim2.chamfer size oversize := rfl
theorem quadratic_bezier (s c e : Pt2 α) (segments : Nat) :
    Src.dim2.quadratic_bezier s c e segments = Dim2.quadraticBezier s c e segments := rfl
theorem cubic_bezier (s c1 c2 e : Pt2 α) (segments : Nat) :
    Src.dim2.cubic_bezier s c1 c2 e segments = Dim2.cubicBezier s c1 c2 e segments := rfl
theorem star (n : Nat) (inner outer : α) : Src.dim2.star n inner outer = Dim2.star n inner outer := rfl

theorem quadratic_bezier3 (s c e : Pt3 α) (segments : Nat) :
    Src.dim3.quadratic_bezier s c e segments = Dim3.quadraticBezier s c e segments := rfl
theorem cubic_bezier3 (s c1 c2 e : Pt3 α) (segments : Nat) :
    Src.dim3.cubic_bezier s c1 c2 e segments = Dim3.cubicBezier s c1 c2 e segments := rfl

end ScadVerif.TieGeom
