/-
Tie between the model of `threaded_cylinder` (Model/Thread.lean) and its transcription from metric_thread.rs
(`Gen/SrcThreadMesh.lean`).  Obligation of C16.

The source keeps one flat `Vec<usize>` of vertex indices, cut into triangles at the end; the model a list of
triangles.  `Sim s t`: `s` is the model's state `t` as the transcription's tuple (`enc`), and every face is a triple.

The transcription subtracts in ℕ, the source in `usize` (underflow panics in a debug build); under `2 ≤ n_steps` and
`n_lead_out_steps ≤ n_steps`, outside which the model answers `none`, nothing underflows.  Sufficient, not necessary:
`n_steps - n_lead_out_steps` stands behind `lead_out_step > 0 &&` in the `else if` after the lead-in branch, so when
`n_lead_out_steps > n_steps` and the lead-in takes every iteration the source returns a mesh and the model `none`,
e.g. `threaded_rod(6, 1.0, 8, 360.0, 360.0, ..)`: 2 steps, 10 lead-in, 8 lead-out.
-/
import ScadVerif.Gen.SrcThreadMesh
import ScadVerif.Model.Thread
import ScadVerif.Tie.Polyhedron
import ScadVerif.Lemmas.ThreadClosed
set_option linter.unusedSectionVars false
namespace ScadVerif.TieThreadMesh
open ScadVerif ScadVerif.Thread

variable {α : Type} [Add α] [Sub α] [Mul α] [Div α] [Neg α] [OfNat α 0] [OfNat α 1]
  [OfNatCast α] [Trig α] [HasSqrt α] [HasAbs α] [Cmp α] [HasTrunc α]

theorem triFaces_flatten : ∀ (fs : List (List Nat)), (∀ f ∈ fs, f.length = 3) → Dim3.triFaces 0 fs.flatten = fs
  | [], _ => rfl
  | f :: rest, h => by
    have hf := h f (by simp)
    match f, hf with
    | [a, b, c], _ =>
      simp only [List.flatten_cons, List.cons_append, List.nil_append, Dim3.triFaces, Nat.add_zero]
      rw [triFaces_flatten rest (fun g hg => h g (by simp [hg]))]

theorem cut_flatten (fs : List (List Nat)) (h : ∀ f ∈ fs, f.length = 3) :
    List.map (fun i => [fs.flatten.getD i 0, fs.flatten.getD (i + 1) 0, fs.flatten.getD (i + 2) 0])
      (List.range' 0 ((fs.flatten.length + 2) / 3) 3) = fs := by
  rw [TiePoly.stepMap_triFaces_zero _ fs.length
    (by rw [← List.flatMap_id, flatMap_length_const fs id 3 h, Nat.mul_comm]), triFaces_flatten fs h]

/-- `List.foldl_rel`, its step hypothesis reordered -/
theorem foldl_sim {σ τ ι : Type} (R : σ → τ → Prop) (f : σ → ι → σ) (g : τ → ι → τ) :
    ∀ (l : List ι) (s : σ) (t : τ), R s t → (∀ s t i, i ∈ l → R s t → R (f s i) (g t i)) →
      R (l.foldl f s) (l.foldl g t)
  | _, _, _, h, hs => List.foldl_rel h fun i hi s t => hs s t i hi

/-- Reducible, so that a `Decidable` instance about `(enc t).2.2.2.1` in the transcription's conditions is seen as
the model's about `t.leadInStep`. -/
abbrev enc (t : St α) : List Nat × Pt3 α × Pt3 α × Nat × Pt3 α × Pt3 α × Nat × List (Pt3 α) :=
  (t.faces.flatten, t.in1, t.in3, t.leadInStep, t.out1, t.out3, t.leadOutStep, t.points)

def Sim (s : List Nat × Pt3 α × Pt3 α × Nat × Pt3 α × Pt3 α × Nat × List (Pt3 α)) (t : St α) : Prop :=
  s = enc t ∧ ∀ f ∈ t.faces, f.length = 3

theorem flatten_two (fs : List (List Nat)) (a b : List Nat) : (fs ++ [a, b]).flatten = fs.flatten ++ a ++ b := by
  simp [List.flatten_append]

/-- Over ℝ because the core rod's tie, `TiePoly.cylinder`, is.  `[HasTrunc ℝ]` is an argument: the floor instance is
declared in several modules; the equality applies under whichever is in scope. -/
theorem threaded_cylinder [HasTrunc ℝ] (dMin dMaj pitch length : ℝ) (segments : Nat) (li lo : ℝ) (left center : Bool)
    (h2 : 2 ≤ HasTrunc.trunc ((length - lit 7 / lit 10 * pitch) / pitch * (cast segments : ℝ)))
    (hout : HasTrunc.trunc ((cast segments : ℝ) * lo / lit 360)
      ≤ HasTrunc.trunc ((length - lit 7 / lit 10 * pitch) / pitch * (cast segments : ℝ))) :
    Src.metric_thread.threaded_cylinder dMin dMaj pitch length segments li lo left center
      = Thread.threadedCylinder dMin dMaj pitch length segments li lo left center := by
  unfold Src.metric_thread.threaded_cylinder Thread.threadedCylinder Thread.threadedCylinderCore Thread.threadMesh
  -- `simp only` and not `rw`/`generalize`: abstracting over this goal is slow
  simp only [Nat.not_lt.mpr h2, Nat.not_lt.mpr hout, gt_iff_lt, decide_false, Bool.or_self, Bool.false_eq_true, if_false]
  generalize hs : List.foldl _ _ (List.range _) = ssrc
  generalize hm : List.foldl _ _ (List.range _) = smod
  obtain ⟨rfl, htri⟩ : Sim ssrc smod := by
    rw [← hs, ← hm]
    apply foldl_sim Sim
    · cases left <;> exact ⟨rfl, by simp⟩
    · rintro _ t i - ⟨rfl, htri⟩
      constructor
      -- hand × branch of the loop body: the same tuple once appends are re-associated (`↓`: from the root down)
      · dsimp only [enc]
        cases left <;> simp only [Bool.false_eq_true, if_false, if_true] <;> split_ifs <;>
          simp only [List.flatten_append, ↓ List.append_assoc] <;> rfl
      -- every branch appends the same eight triangles
      · simp only [apply_ite St.faces, ite_self]
        exact List.forall_mem_append.mpr ⟨htri, fun f hf => (ThreadClosed.stepFaces_block left _ f hf).1⟩
  have htri2 (a b : List Nat) (ha : a.length = 3) (hb : b.length = 3) : ∀ f ∈ smod.faces ++ [a, b], f.length = 3 :=
    List.forall_mem_append.mpr ⟨htri, by simp [ha, hb]⟩
  rw [TiePoly.cylinder]
  cases left <;> simp only [Bool.false_eq_true, if_false, if_true, List.nil_append] <;>
    rw [← flatten_two, cut_flatten _ (htri2 _ _ rfl rfl)] <;>
    cases Dim3.Polyhedron.cylinder (dMin / lit 2 + lit 1 / lit 10000) length segments <;> cases center <;> rfl

/-- the guard is satisfiable -/
example : (2 ≤ (⌊((10 : ℝ) - 7 / 10 * 1) / 1 * 8⌋₊)) ∧ ⌊(8 : ℝ) * 0 / 360⌋₊ ≤ ⌊((10 : ℝ) - 7 / 10 * 1) / 1 * 8⌋₊ := by
  constructor
  · apply Nat.le_floor; norm_num
  · simp

end ScadVerif.TieThreadMesh
