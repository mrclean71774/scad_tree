/-
The model's thread proportions and lead-in/lead-out interpolation (Model/Thread.lean) are, by `rfl`, the
transcriptions of `thread_height_from_pitch`, `d_min_from_d_maj_pitch` and the private `lerp` of metric_thread.rs
(`Gen/SrcMetricThread.lean`).  Obligations of C16, C14.  Rest of metric_thread.rs: the table is regenerated
(Gen/ThreadTable.lean); Tie/ThreadLookup.lean, Tie/ThreadMesh.lean, Tie/ThreadParts.lean.
-/
import ScadVerif.Gen.SrcMetricThread
import ScadVerif.Model.Thread
set_option linter.unusedSectionVars false
namespace ScadVerif.TieThread
open ScadVerif

variable {α : Type} [Add α] [Sub α] [Mul α] [Div α] [Neg α] [OfNat α 0] [OfNat α 1]
  [OfNatCast α] [Trig α] [HasSqrt α] [HasAbs α] [Cmp α]
  [HasTrunc α]

theorem lerp (s e : Pt3 α) (n step : Nat) : Src.metric_thread.lerp s e n step = Thread.lerpSteps s e n step := rfl
theorem thread_height_from_pitch (pitch : α) :
    Src.metric_thread.thread_height_from_pitch pitch = Thread.threadHeight pitch := rfl
theorem d_min_from_d_maj_pitch (dMaj pitch : α) :
    Src.metric_thread.d_min_from_d_maj_pitch dMaj pitch = Thread.dMin dMaj pitch := rfl

end ScadVerif.TieThread
