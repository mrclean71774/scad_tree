/-
Tie between the model of viewer.rs (Model/Viewer.lean) and the transcription of every function of
`impl Viewer` (`Gen/SrcViewer.lean`).  Obligations of C18.

Callees of viewer.rs appear as their transcriptions (`Src.Polyhedron.cylinder`,
`Src.QuadraticBezier2D.gen_points`, `Src.Mt4.look_at_matrix_lh`, …), tied to the model in Tie/Polyhedron,
Tie/Chain, Tie/Math; the theorems here compose them.  Tie/ScadFns is not imported: `Src.Scad.add_Scad` (in
`add_pt2/3`) is `Scad.add` by `rfl`, inside their `cases st.scad <;> rfl`.  The curve adders list the connecting
edges by index (`(points[i], points[i + 1])` for `i < len - 1`), the model as `zip ps (drop 1 ps)` (`edges_eq`).
-/
import ScadVerif.Gen.SrcViewer
import ScadVerif.Model.Viewer
import ScadVerif.Tie.Chain
import ScadVerif.Tie.Polyhedron
set_option linter.unusedSectionVars false
namespace ScadVerif.TieViewer
open ScadVerif ScadVerif.Viewer

variable {α : Type} [Add α] [Sub α] [Mul α] [Div α] [Neg α] [OfNat α 0] [OfNat α 1]
  [OfNatCast α] [Trig α] [HasSqrt α] [HasAbs α] [Cmp α]

theorem new (pr er : α) (seg : Nat) : Src.Viewer.new pr er seg = ⟨pr, er, seg, none⟩ := rfl

theorem add_pt2 (st : State α) (p : Pt2 α) (c : List Char) : Src.Viewer.add_pt2 st p c = addPt2 st p c := by
  unfold Src.Viewer.add_pt2 addPt2 push
  cases st.scad <;> rfl
theorem add_pt3 (st : State α) (p : Pt3 α) (c : List Char) : Src.Viewer.add_pt3 st p c = addPt3 st p c := by
  unfold Src.Viewer.add_pt3 addPt3 push
  cases st.scad <;> rfl
theorem add_pt2s (st : State α) (ps : List (Pt2 α)) (c : List Char) : Src.Viewer.add_pt2s st ps c = addPt2s st ps c := by
  unfold Src.Viewer.add_pt2s addPt2s pushGroup
  cases st.scad <;> rfl
theorem add_pt3s (st : State α) (ps : List (Pt3 α)) (c : List Char) : Src.Viewer.add_pt3s st ps c = addPt3s st ps c := by
  unfold Src.Viewer.add_pt3s addPt3s pushGroup
  cases st.scad <;> rfl

/-! the edge adders: over the reals, as the tie of `Polyhedron::cylinder` is -/
theorem add_lines3d (st : State ℝ) (es : List (Pt3 ℝ × Pt3 ℝ)) (c : List Char) :
    Src.Viewer.add_lines3d st es c = addLines3d st es c := by
  obtain ⟨pr, er, seg, scad⟩ := st
  unfold Src.Viewer.add_lines3d addLines3d
  simp only [TiePoly.cylinder, TiePoly.apply_matrix, TiePoly.translate, Tie.Mt4_look_at_matrix_lh, Tie.Pt3_new,
    Tie.Pt3_len, Tie.Pt3_sub, List.nil_append]
  cases scad <;> rfl

theorem add_lines2d (st : State ℝ) (es : List (Pt2 ℝ × Pt2 ℝ)) (c : List Char) :
    Src.Viewer.add_lines2d st es c = addLines2d st es c := by
  obtain ⟨pr, er, seg, scad⟩ := st
  unfold Src.Viewer.add_lines2d addLines2d
  simp only [TiePoly.cylinder, TiePoly.apply_matrix, TiePoly.translate, Tie.Mt4_look_at_matrix_lh, Tie.Pt3_new,
    Tie.Pt2_len, Tie.Pt2_sub, Tie.Pt2_as_pt3, List.nil_append]
  cases scad <;> rfl

theorem edges_eq {β : Type} (d : β) : ∀ ps : List β,
    (List.range (ps.length - 1)).map (fun i => (ps.getD i d, ps.getD (i + 1) d)) = edges ps
  | [] | [_] => rfl
  | x :: y :: r => by
    rw [List.length_cons, Nat.add_sub_cancel, List.length_cons, List.range_succ_eq_map, List.map_cons, List.map_map]
    exact congrArg _ (edges_eq d (y :: r))

theorem add_quadratic_bezier2d (st : State ℝ) (q : Dim2.Quadratic ℝ) :
    Src.Viewer.add_quadratic_bezier2d st q = addQuad2 st q.start q.control q.end_ q.segments := by
  unfold Src.Viewer.add_quadratic_bezier2d addQuad2
  simp only [add_pt2s, add_lines2d, add_pt2, List.nil_append, edges_eq, TieChain.quadratic_gen_points2]
  rfl
theorem add_quadratic_bezier3d (st : State ℝ) (q : Dim3.Quadratic ℝ) :
    Src.Viewer.add_quadratic_bezier3d st q = addQuad3 st q.start q.control q.end_ q.segments := by
  unfold Src.Viewer.add_quadratic_bezier3d addQuad3
  simp only [add_pt3s, add_lines3d, add_pt3, List.nil_append, edges_eq, TieChain.quadratic_gen_points3]
  rfl
theorem add_cubic_bezier2d (st : State ℝ) (q : Dim2.Cubic ℝ) :
    Src.Viewer.add_cubic_bezier2d st q = addCubic2 st q.start q.control1 q.control2 q.end_ q.segments := by
  unfold Src.Viewer.add_cubic_bezier2d addCubic2
  simp only [add_pt2s, add_lines2d, add_pt2, List.nil_append, edges_eq, TieChain.cubic_gen_points2]
  rfl
theorem add_cubic_bezier3d (st : State ℝ) (q : Dim3.Cubic ℝ) :
    Src.Viewer.add_cubic_bezier3d st q = addCubic3 st q.start q.control1 q.control2 q.end_ q.segments := by
  unfold Src.Viewer.add_cubic_bezier3d addCubic3
  simp only [add_pt3s, add_lines3d, add_pt3, List.nil_append, edges_eq, TieChain.cubic_gen_points3]
  rfl

theorem add_cubic_bezier_chain2d (st : State ℝ) (ch : Dim2.Chain ℝ) :
    Src.Viewer.add_cubic_bezier_chain2d st ch = step st (.chain2 ch.curves) := by
  unfold Src.Viewer.add_cubic_bezier_chain2d step
  simp only [add_cubic_bezier2d]
theorem add_cubic_bezier_chain3d (st : State ℝ) (ch : Dim3.Chain ℝ) :
    Src.Viewer.add_cubic_bezier_chain3d st ch = step st (.chain3 ch.curves) := by
  unfold Src.Viewer.add_cubic_bezier_chain3d step
  simp only [add_cubic_bezier3d]
/-- `BezierStar` wraps its chain -/
theorem add_bezier_star (st : State ℝ) (ch : Dim2.Chain ℝ) :
    Src.Viewer.add_bezier_star st ch = step st (.chain2 ch.curves) := by
  unfold Src.Viewer.add_bezier_star
  exact add_cubic_bezier_chain2d st ch

theorem into_scad (st : State α) : Src.Viewer.into_scad st = intoScad st := rfl

/-- every model step is the transcribed adder it stands for.  The chain adders read only `curves`, so the
`closed` flag of the chain the step is compared with is arbitrary (`false`); `add_bezier_star` has no `Op`
of its own, it is `chain2` on the star's chain. -/
theorem step_eq (st : State ℝ) : ∀ op : Op ℝ, step st op = match op with
    | .pt2 p c => some (Src.Viewer.add_pt2 st p c)
    | .pt3 p c => some (Src.Viewer.add_pt3 st p c)
    | .pt2s ps c => some (Src.Viewer.add_pt2s st ps c)
    | .pt3s ps c => some (Src.Viewer.add_pt3s st ps c)
    | .lines2d es c => Src.Viewer.add_lines2d st es c
    | .lines3d es c => Src.Viewer.add_lines3d st es c
    | .quad2 s c e n => Src.Viewer.add_quadratic_bezier2d st ⟨s, c, e, n⟩
    | .quad3 s c e n => Src.Viewer.add_quadratic_bezier3d st ⟨s, c, e, n⟩
    | .cubic2 s c1 c2 e n => Src.Viewer.add_cubic_bezier2d st ⟨s, c1, c2, e, n⟩
    | .cubic3 s c1 c2 e n => Src.Viewer.add_cubic_bezier3d st ⟨s, c1, c2, e, n⟩
    | .chain2 cs => Src.Viewer.add_cubic_bezier_chain2d st ⟨cs, false⟩
    | .chain3 cs => Src.Viewer.add_cubic_bezier_chain3d st ⟨cs, false⟩ := by
  intro op
  cases op <;> simp only [add_pt2, add_pt3, add_pt2s, add_pt3s, add_lines2d, add_lines3d, add_quadratic_bezier2d,
    add_quadratic_bezier3d, add_cubic_bezier2d, add_cubic_bezier3d, add_cubic_bezier_chain2d,
    add_cubic_bezier_chain3d] <;> rfl

end ScadVerif.TieViewer
