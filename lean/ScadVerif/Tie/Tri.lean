/-
The two predicates of the model's ear-clipping loop (Model/Tri.lean `isCcw`, `inTriangle`) and its 2D and 3D entry
points are the transcriptions from triangulate.rs (`Gen/SrcTriangulate.lean`).  Obligations of C03 (and of C04, C05,
whose caps come from the same loop).  The transcribed entry points name the private loop `triangulate` directly as
`Tri.triangulateChecked` (the model's loop with its index panics explicit), to which Tie/TriLoop.lean ties that
loop's transcription.
-/
import ScadVerif.Gen.SrcTriangulate
import ScadVerif.Lemmas.TriScan
set_option linter.unusedSectionVars false
namespace ScadVerif.TieTri
open ScadVerif

variable {α : Type} [Add α] [Sub α] [Mul α] [Div α] [Neg α] [OfNat α 0] [OfNat α 1]
  [OfNatCast α] [Trig α] [HasSqrt α] [HasAbs α] [Cmp α]

theorem is_ccw (a b c : Nat × Pt2 α) : Src.triangulate.is_ccw [a, b, c] = Tri.isCcw a.2 b.2 c.2 := rfl
theorem in_triangle (p a b c : Nat × Pt2 α) :
    Src.triangulate.in_triangle p a b c = Tri.inTriangle p.2 a.2 b.2 c.2 := rfl

theorem checked_of_length (poly : Tri.Poly α) (h : 2 ≤ poly.length) :
    Tri.triangulateChecked poly = some (Tri.triangulate poly) := by
  unfold Tri.triangulateChecked
  rw [if_neg (by omega)]
theorem indexed_eq (vs : List (Pt2 α)) :
    ([] : Tri.Poly α) ++ List.map (fun (iv : Nat × Pt2 α) => (iv.1, iv.2)) (List.zip (List.range vs.length) vs)
      = Tri.indexed vs := by
  simp [Tri.indexed]

theorem triangulate2d (vs : List (Pt2 α)) : Src.triangulate.triangulate2d vs = Tri.triangulate2d vs := by
  unfold Src.triangulate.triangulate2d Tri.triangulate2d
  by_cases h : 3 < vs.length
  · simp only [h, decide_true, Bool.not_true, Bool.false_eq_true, if_false, if_true]
    show Tri.triangulateChecked (([] : Tri.Poly α) ++ _) = _
    rw [indexed_eq, checked_of_length _ (by rw [Tri.indexed_length]; omega)]
  · simp [h]
theorem triangulate2d_rev (vs : List (Pt2 α)) :
    Src.triangulate.triangulate2d_rev vs = Tri.triangulate2dRev vs := by
  unfold Src.triangulate.triangulate2d_rev Tri.triangulate2dRev
  by_cases h : 3 < vs.length
  · simp only [h, decide_true, Bool.not_true, Bool.false_eq_true, if_false, if_true]
    show Tri.triangulateChecked (List.reverse (([] : Tri.Poly α) ++ _)) = _
    rw [indexed_eq, checked_of_length _ (by rw [List.length_reverse, Tri.indexed_length]; omega)]
  · simp [h]

theorem indexed3_eq (vs : List (Pt3 α)) (f : Pt3 α → Pt2 α) :
    ([] : Tri.Poly α) ++ List.map (fun (iv : Nat × Pt3 α) => (iv.1, f iv.2)) (List.zip (List.range vs.length) vs)
      = Tri.indexed (vs.map f) := by
  simp only [Tri.indexed, List.nil_append, List.length_map]
  rw [List.zip_map_right]
  rfl

theorem proj_case (vs : List (Pt3 α)) (f : Pt3 α → Pt2 α) (h : 3 < vs.length) :
    Tri.triangulateChecked (([] : Tri.Poly α) ++
        List.map (fun (iv : Nat × Pt3 α) => (iv.1, f iv.2)) (List.zip (List.range vs.length) vs))
      = some (Tri.triangulate (Tri.indexed (vs.map f))) := by
  rw [indexed3_eq, checked_of_length _ (by rw [Tri.indexed_length, List.length_map]; omega)]
theorem proj_case_rev (vs : List (Pt3 α)) (f : Pt3 α → Pt2 α) (h : 3 < vs.length) :
    Tri.triangulateChecked (List.reverse (([] : Tri.Poly α) ++
        List.map (fun (iv : Nat × Pt3 α) => (iv.1, f iv.2)) (List.zip (List.range vs.length) vs)))
      = some (Tri.triangulate (Tri.indexed (vs.map f)).reverse) := by
  rw [indexed3_eq, checked_of_length _ (by rw [List.length_reverse, Tri.indexed_length, List.length_map]; omega)]

/-- both 3D entry points at once: they differ only in the final `reverse`, so the seven cases of the
classification are gone through once -/
theorem triangulate3d_both (vs : List (Pt3 α)) (nml : Pt3 α) :
    Src.triangulate.triangulate3d vs nml = Tri.triangulate3d vs nml ∧
      Src.triangulate.triangulate3d_rev vs nml = Tri.triangulate3dRev vs nml := by
  unfold Src.triangulate.triangulate3d Src.triangulate.triangulate3d_rev Tri.triangulate3d Tri.triangulate3dRev
    Tri.classify
  by_cases h : 3 < vs.length
  · simp only [h, decide_true, Bool.not_true, Bool.false_eq_true, if_false, if_true]
    cases (Cmp.leb (HasAbs.abs nml.y) (HasAbs.abs nml.x) && Cmp.leb (HasAbs.abs nml.z) (HasAbs.abs nml.x))
    · cases (Cmp.leb (HasAbs.abs nml.x) (HasAbs.abs nml.y) && Cmp.leb (HasAbs.abs nml.z) (HasAbs.abs nml.y))
      · cases (Cmp.leb (HasAbs.abs nml.x) (HasAbs.abs nml.z) && Cmp.leb (HasAbs.abs nml.y) (HasAbs.abs nml.z))
        · exact ⟨rfl, rfl⟩
        · cases (Cmp.leb 0 nml.z)
          · exact ⟨proj_case vs (Tri.project .nz) h, proj_case_rev vs (Tri.project .nz) h⟩
          · exact ⟨proj_case vs (Tri.project .pz) h, proj_case_rev vs (Tri.project .pz) h⟩
      · cases (Cmp.leb 0 nml.y)
        · exact ⟨proj_case vs (Tri.project .ny) h, proj_case_rev vs (Tri.project .ny) h⟩
        · exact ⟨proj_case vs (Tri.project .py) h, proj_case_rev vs (Tri.project .py) h⟩
    · cases (Cmp.leb 0 nml.x)
      · exact ⟨proj_case vs (Tri.project .nx) h, proj_case_rev vs (Tri.project .nx) h⟩
      · exact ⟨proj_case vs (Tri.project .px) h, proj_case_rev vs (Tri.project .px) h⟩
  · simp [h]

theorem triangulate3d (vs : List (Pt3 α)) (nml : Pt3 α) :
    Src.triangulate.triangulate3d vs nml = Tri.triangulate3d vs nml :=
  (triangulate3d_both vs nml).1

theorem triangulate3d_rev (vs : List (Pt3 α)) (nml : Pt3 α) :
    Src.triangulate.triangulate3d_rev vs nml = Tri.triangulate3dRev vs nml :=
  (triangulate3d_both vs nml).2

end ScadVerif.TieTri

