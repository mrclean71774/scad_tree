/-
Tie between the model of `threaded_rod`, `tap`, `hex_bolt`, `hex_nut` (Model/Parts.lean) and their
transcription from metric_thread.rs (`Gen/SrcThreadParts.lean`).  Obligations of C14 (and C16).

Four callees appear in the transcription under their model names (`Thread.lookup`, `Thread.threadedCylinder`,
`Dim3.Polyhedron.linearExtrude`, `Thread.polyScad`), tied in Tie/ThreadLookup.lean, Tie/ThreadMesh.lean,
Tie/Polyhedron.lean.  Everything else is transcribed.  The model factors bolt and nut into an un-centred core then
one centring step (what the C14 theorems use); the source is one chain of `Option.bind`s, so the model's final
centring `map` is pushed inside its binds (`Option.map_bind`).  In `hex_nut`'s `simp only` set, `tap` is this file's
theorem, not `Parts.tap`.
-/
import ScadVerif.Gen.SrcThreadParts
import ScadVerif.Model.Parts
import ScadVerif.Tie.Thread
import ScadVerif.Tie.Geom
import ScadVerif.Tie.ScadFns
set_option linter.unusedSectionVars false
namespace ScadVerif.TieThreadParts
open ScadVerif ScadVerif.Thread

variable {α : Type} [Add α] [Sub α] [Mul α] [Div α] [Neg α] [OfNat α 0] [OfNat α 1]
  [OfNatCast α] [Trig α] [HasSqrt α] [HasAbs α] [Cmp α] [HasTrunc α]

theorem threaded_rod (m : Int) (length : α) (segments : Nat) (li lo : α) (left center : Bool) :
    Src.metric_thread.threaded_rod m length segments li lo left center =
      Parts.threadedRod m length segments li lo left center := rfl

theorem tap (m : Int) (length : α) (segments : Nat) (left center : Bool) :
    Src.metric_thread.tap m length segments left center = Parts.tap m length segments left center := rfl

theorem hex_bolt (m : Int) (length head : α) (segments : Nat) (li : α) (chamfered left center : Bool) :
    Src.metric_thread.hex_bolt m length head segments li chamfered left center =
      Parts.hexBolt m length head segments li chamfered left center := by
  unfold Src.metric_thread.hex_bolt Parts.hexBolt Parts.hexBoltCore
  simp only [TieThread.d_min_from_d_maj_pitch, TieGeom.circumscribed_polygon, TieScadFns.sub, TieScadFns.add,
    TieScadFns.external_cylinder_chamfer, Option.bind_eq_bind, Option.pure_def, Option.map_bind, Function.comp_def,
    Option.map_some]
  rfl

theorem hex_nut (m : Int) (height : α) (segments : Nat) (chamfered left center : Bool) :
    Src.metric_thread.hex_nut m height segments chamfered left center =
      Parts.hexNut m height segments chamfered left center := by
  unfold Src.metric_thread.hex_nut Parts.hexNut Parts.hexNutCore
  simp only [tap, TieGeom.circumscribed_polygon, TieScadFns.sub, TieScadFns.external_cylinder_chamfer,
    Option.bind_eq_bind, Option.pure_def, Option.map_bind, Function.comp_def, Option.map_some]
  rfl

end ScadVerif.TieThreadParts
