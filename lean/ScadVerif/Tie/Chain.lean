/-
Tie between the model of the Bézier structs, the cubic chains and the Bézier star (Model/Dim2.lean,
Model/Dim3.lean) and the transcription of that code from dim2.rs / dim3.rs (`Gen/SrcChain2.lean`,
`Gen/SrcChain3.lean`).  Obligations of C08 and C18.

The source indexes `self.curves[self.curves.len() - 1]` and `self.curves[0]`, which panic on an empty
chain; there the transcription reads a default element and the model returns the chain unchanged, so
`add` and `close` are tied under `curves ≠ []`.  `nonempty_new/add/close`: every chain built through the
public constructors satisfies it (only a caller emptying the public `curves` field can break it, and then the
Rust code panics).
-/
import ScadVerif.Gen.SrcChain2
import ScadVerif.Gen.SrcChain3
import ScadVerif.Model.Dim2
import ScadVerif.Model.Dim3
import ScadVerif.Lemmas.Fold
set_option linter.unusedSectionVars false
namespace ScadVerif.TieChain
open ScadVerif

variable {α : Type} [Add α] [Sub α] [Mul α] [Div α] [Neg α] [OfNat α 0] [OfNat α 1]
  [OfNatCast α] [Trig α] [HasSqrt α] [HasAbs α] [Cmp α]

theorem foldl_range_getD {β γ : Type} (l : List β) (d : β) (f : γ → β → γ) (a : γ) :
    (List.range l.length).foldl (fun acc i => f acc (l.getD i d)) a = l.foldl f a := by
  rw [← List.foldl_map (f := fun i => l.getD i d) (g := f)]
  exact congrArg (List.foldl f a) ((map_range_getD l d id).trans (List.map_id l))

/-! ### 2D (dim2.rs) -/
theorem quadratic_new2 (s c e : Pt2 α) (n : Nat) : Src.QuadraticBezier2D.new s c e n = ⟨s, c, e, n⟩ := rfl
theorem quadratic_gen_points2 (q : Dim2.Quadratic α) :
    Src.QuadraticBezier2D.gen_points q = Dim2.quadraticBezier q.start q.control q.end_ q.segments := rfl
theorem cubic_new2 (s c1 c2 e : Pt2 α) (n : Nat) : Src.CubicBezier2D.new s c1 c2 e n = ⟨s, c1, c2, e, n⟩ := rfl
theorem cubic_gen_points2 (c : Dim2.Cubic α) :
    Src.CubicBezier2D.gen_points c = Dim2.cubicBezier c.start c.control1 c.control2 c.end_ c.segments := rfl

theorem chain_new2 (s c1 c2 e : Pt2 α) (n : Nat) :
    Src.CubicBezierChain2D.new s c1 c2 e n = Dim2.Chain.new s c1 c2 e n := rfl

theorem chain_add2 (ch : Dim2.Chain α) (len : α) (c2 e : Pt2 α) (n : Nat) (h : ch.curves ≠ []) :
    Src.CubicBezierChain2D.add ch len c2 e n = Dim2.Chain.add ch len c2 e n := by
  unfold Dim2.Chain.add
  rw [getLast?_eq_getD ch.curves (⟨⟨0, 0⟩, ⟨0, 0⟩, ⟨0, 0⟩, ⟨0, 0⟩, 0⟩ : Dim2.Cubic α) h]
  rfl

theorem chain_close2 (ch : Dim2.Chain α) (len : α) (c2 : Pt2 α) (startLen : α) (n : Nat) (h : ch.curves ≠ []) :
    Src.CubicBezierChain2D.close ch len c2 startLen n = Dim2.Chain.close ch len c2 startLen n := by
  obtain ⟨curves, closed⟩ := ch
  cases curves with
  | nil => exact absurd rfl h
  | cons first tl =>
    unfold Dim2.Chain.close
    simp only
    -- the model's `add` as the source's, whose result is an explicit append
    rw [← chain_add2 _ _ _ _ _ (List.cons_ne_nil _ _)]
    simp only [Src.CubicBezierChain2D.add, List.cons_append]
    rw [getLast?_eq_getD (first :: (tl ++ _)) (⟨⟨0, 0⟩, ⟨0, 0⟩, ⟨0, 0⟩, ⟨0, 0⟩, 0⟩ : Dim2.Cubic α) (by simp)]
    rfl

theorem chain_gen_points2 (ch : Dim2.Chain α) :
    Src.CubicBezierChain2D.gen_points ch = Dim2.Chain.genPoints ch := by
  unfold Src.CubicBezierChain2D.gen_points Dim2.Chain.genPoints
  simp only
  rw [foldl_range_getD ch.curves _
    (fun (pts : List (Pt2 α)) (c : Dim2.Cubic α) =>
      List.dropLast pts ++ Src.dim2.cubic_bezier c.start c.control1 c.control2 c.end_ c.segments)]
  rfl

theorem nonempty_new2 (s c1 c2 e : Pt2 α) (n : Nat) : (Dim2.Chain.new s c1 c2 e n).curves ≠ [] := by
  simp [Dim2.Chain.new]
theorem nonempty_add2 (ch : Dim2.Chain α) (len : α) (c2 e : Pt2 α) (n : Nat) (h : ch.curves ≠ []) :
    (Dim2.Chain.add ch len c2 e n).curves ≠ [] := by
  unfold Dim2.Chain.add
  split <;> simp [h]
theorem nonempty_close2 (ch : Dim2.Chain α) (len : α) (c2 : Pt2 α) (startLen : α) (n : Nat) (h : ch.curves ≠ []) :
    (Dim2.Chain.close ch len c2 startLen n).curves ≠ [] := by
  unfold Dim2.Chain.close
  split
  · exact h
  · simp only
    split
    · simp
    · exact nonempty_add2 _ _ _ _ _ (by simp_all)

theorem foldl_add_nonempty2 {ι : Type} (l : List ι) (ch : Dim2.Chain α) (len : ι → α) (c2 e : ι → Pt2 α) (n : Nat)
    (h : ch.curves ≠ []) :
    (l.foldl (fun ch i => Dim2.Chain.add ch (len i) (c2 i) (e i) n) ch).curves ≠ [] :=
  List.foldlRecOn (motive := fun ch : Dim2.Chain α => ch.curves ≠ []) l _ h fun _ hc _ _ => nonempty_add2 _ _ _ _ _ hc

theorem foldl_add2 {ι : Type} (l : List ι) (ch : Dim2.Chain α) (len : ι → α) (c2 e : ι → Pt2 α) (n : Nat)
    (h : ch.curves ≠ []) :
    l.foldl (fun ch i => Src.CubicBezierChain2D.add ch (len i) (c2 i) (e i) n) ch
      = l.foldl (fun ch i => Dim2.Chain.add ch (len i) (c2 i) (e i) n) ch := by
  induction l generalizing ch with
  | nil => rfl
  | cons a t ih =>
    simp only [List.foldl_cons]
    rw [chain_add2 _ _ _ _ _ h]
    exact ih _ (nonempty_add2 _ _ _ _ _ h)

/-- `BezierStar::new` (the struct wraps its chain): for at least one point the model's chain -/
theorem bezier_star_new (nPoints : Nat) (innerR innerH outerR outerH : α) (segments : Nat) (hn : 1 ≤ nPoints) :
    some (Src.BezierStar.new nPoints innerR innerH outerR outerH segments)
      = Dim2.bezierStarChain nPoints innerR innerH outerR outerH segments := by
  unfold Src.BezierStar.new Dim2.bezierStarChain
  simp only [List.nil_append]
  rw [if_neg (by rw [flatMap_length_const _ _ 2 fun _ _ => rfl, List.length_range]; omega)]
  -- the source's `for i in 1..n-1` folds over `range' 1 (n-2)`, the model over `range (n-2)` with `i := j + 1`;
  -- `add` and `close` by the ties above, the chain being non-empty throughout
  rw [foldl_range']
  congr 1
  simp only [chain_new2]
  rw [foldl_add2 (List.range _) _ _ _ _ _ (nonempty_new2 _ _ _ _ _)]
  rw [chain_close2 _ _ _ _ _ (foldl_add_nonempty2 _ _ _ _ _ _ (nonempty_new2 _ _ _ _ _))]
  simp only [decide_eq_true_eq, Nat.sub_sub, Nat.reduceAdd]
  rfl

theorem bezier_star_gen_points (ch : Dim2.Chain α) : Src.BezierStar.gen_points ch = Dim2.Chain.genPoints ch :=
  chain_gen_points2 ch

/-- the free function `bezier_star` (repeats `BezierStar::new`'s body and samples the chain) -/
theorem bezier_star (nPoints : Nat) (innerR innerH outerR outerH : α) (segments : Nat) (hn : 1 ≤ nPoints) :
    some (Src.dim2.bezier_star nPoints innerR innerH outerR outerH segments)
      = Dim2.bezierStar nPoints innerR innerH outerR outerH segments := by
  unfold Dim2.bezierStar
  rw [← bezier_star_new _ _ _ _ _ _ hn, Option.map_some, ← chain_gen_points2]
  rfl

/-! ### 3D (dim3.rs): statements and proofs as for 2D; the star exists in 2D only -/
theorem quadratic_new3 (s c e : Pt3 α) (n : Nat) : Src.QuadraticBezier3D.new s c e n = ⟨s, c, e, n⟩ := rfl
theorem quadratic_gen_points3 (q : Dim3.Quadratic α) :
    Src.QuadraticBezier3D.gen_points q = Dim3.quadraticBezier q.start q.control q.end_ q.segments := rfl
theorem cubic_new3 (s c1 c2 e : Pt3 α) (n : Nat) : Src.CubicBezier3D.new s c1 c2 e n = ⟨s, c1, c2, e, n⟩ := rfl
theorem cubic_gen_points3 (c : Dim3.Cubic α) :
    Src.CubicBezier3D.gen_points c = Dim3.cubicBezier c.start c.control1 c.control2 c.end_ c.segments := rfl

theorem chain_new3 (s c1 c2 e : Pt3 α) (n : Nat) :
    Src.CubicBezierChain3D.new s c1 c2 e n = Dim3.Chain.new s c1 c2 e n := rfl

theorem chain_add3 (ch : Dim3.Chain α) (len : α) (c2 e : Pt3 α) (n : Nat) (h : ch.curves ≠ []) :
    Src.CubicBezierChain3D.add ch len c2 e n = Dim3.Chain.add ch len c2 e n := by
  unfold Dim3.Chain.add
  rw [getLast?_eq_getD ch.curves (⟨⟨0, 0, 0⟩, ⟨0, 0, 0⟩, ⟨0, 0, 0⟩, ⟨0, 0, 0⟩, 0⟩ : Dim3.Cubic α) h]
  rfl

theorem chain_close3 (ch : Dim3.Chain α) (len : α) (c2 : Pt3 α) (startLen : α) (n : Nat) (h : ch.curves ≠ []) :
    Src.CubicBezierChain3D.close ch len c2 startLen n = Dim3.Chain.close ch len c2 startLen n := by
  obtain ⟨curves, closed⟩ := ch
  cases curves with
  | nil => exact absurd rfl h
  | cons first tl =>
    unfold Dim3.Chain.close
    simp only
    rw [← chain_add3 _ _ _ _ _ (List.cons_ne_nil _ _)]
    simp only [Src.CubicBezierChain3D.add, List.cons_append]
    rw [getLast?_eq_getD (first :: (tl ++ _)) (⟨⟨0, 0, 0⟩, ⟨0, 0, 0⟩, ⟨0, 0, 0⟩, ⟨0, 0, 0⟩, 0⟩ : Dim3.Cubic α) (by simp)]
    rfl

theorem chain_gen_points3 (ch : Dim3.Chain α) :
    Src.CubicBezierChain3D.gen_points ch = Dim3.Chain.genPoints ch := by
  unfold Src.CubicBezierChain3D.gen_points Dim3.Chain.genPoints
  simp only
  rw [foldl_range_getD ch.curves _
    (fun (pts : List (Pt3 α)) (c : Dim3.Cubic α) =>
      List.dropLast pts ++ Src.dim3.cubic_bezier c.start c.control1 c.control2 c.end_ c.segments)]
  rfl

theorem nonempty_new3 (s c1 c2 e : Pt3 α) (n : Nat) : (Dim3.Chain.new s c1 c2 e n).curves ≠ [] := by
  simp [Dim3.Chain.new]
theorem nonempty_add3 (ch : Dim3.Chain α) (len : α) (c2 e : Pt3 α) (n : Nat) (h : ch.curves ≠ []) :
    (Dim3.Chain.add ch len c2 e n).curves ≠ [] := by
  unfold Dim3.Chain.add
  split <;> simp [h]
theorem nonempty_close3 (ch : Dim3.Chain α) (len : α) (c2 : Pt3 α) (startLen : α) (n : Nat) (h : ch.curves ≠ []) :
    (Dim3.Chain.close ch len c2 startLen n).curves ≠ [] := by
  unfold Dim3.Chain.close
  split
  · exact h
  · simp only
    split
    · simp
    · exact nonempty_add3 _ _ _ _ _ (by simp_all)


end ScadVerif.TieChain
