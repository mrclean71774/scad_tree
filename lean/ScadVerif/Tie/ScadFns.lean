/-
Tie of the models of `Scad::external_circle_chamfer`, `external_cylinder_chamfer`, `polar_array` (Model/Parts.lean)
and `a + b`, `a - b` (Model/Scad.lean) to their transcription from scad.rs (`Gen/SrcScad.lean`, regenerated on every
run; macro invocations instantiated from the arm table extracted from the `macro_rules!` definitions).  For C17
(polar_array, chamfers), C14 (external_cylinder_chamfer), C06 (`+`, `-`).
-/
import ScadVerif.Gen.SrcScad
import ScadVerif.Model.Parts
set_option linter.unusedSectionVars false
namespace ScadVerif.TieScadFns
open ScadVerif

variable {α : Type} [Add α] [Sub α] [Mul α] [Div α] [Neg α] [OfNat α 0] [OfNat α 1]
  [OfNatCast α] [Trig α] [HasSqrt α] [HasAbs α] [Cmp α] [HasTrunc α]

theorem add (a b : Scad α) : Src.Scad.add_Scad a b = Scad.add a b := rfl
theorem sub (a b : Scad α) : Src.Scad.sub_Scad a b = Scad.sub a b := rfl
theorem external_circle_chamfer (size oversize radius degrees : α) (segments : Nat) :
    Src.Scad.external_circle_chamfer size oversize radius degrees segments =
      Parts.externalCircleChamfer size oversize radius degrees segments := rfl
theorem external_cylinder_chamfer (size oversize radius height : α) (segments : Nat) (center : Bool) :
    Src.Scad.external_cylinder_chamfer size oversize radius height segments center =
      Parts.externalCylinderChamfer size oversize radius height segments center := rfl
theorem polar_array (s : Scad α) (count : Nat) (degrees : α) :
    Src.Scad.polar_array s count degrees = Parts.polarArray s count degrees := rfl

end ScadVerif.TieScadFns
