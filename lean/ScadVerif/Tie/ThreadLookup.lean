/-
Tie between the model's table lookup (Model/Thread.lean: `lookup`, `lookupFrom`, a structural recursion counting down
to the next listed size) and the transcription of `m_table_lookup` from metric_thread.rs (`Gen/SrcThreadLookup.lean`:
the clamp to 2, the `loop { if contains_key { break } m -= 1 }` as a bounded iteration, the final `table[&m]`).
Obligation of C16.  That M2 has a row, so the walk ends, is decided over the regenerated table (Gen/ThreadTable.lean).
-/
import ScadVerif.Gen.SrcThreadLookup
import ScadVerif.Model.Thread
import ScadVerif.Lemmas.ThreadLookup
namespace ScadVerif.TieThreadLookup
open ScadVerif ScadVerif.Thread

/-- the walk from size `n ≥ 2`: fuel `n − 1` suffices.  The transcription runs it with `Int.toNat m` after the clamp,
i.e. `n` (the bound set for this function in translator/treesrc.py, `while_fuel`). -/
theorem walk : ∀ (fuel n : Nat), 2 ≤ n → n ≤ fuel + 1 →
    (Src.whileFuel (fun (_ : Int) => true)
      (fun (m : Int) => if Option.isSome (findRow (Int.toNat m)) then (m, true) else (m - 1, false))
      fuel (n : Int)).bind (fun m => findRow (Int.toNat m)) = lookupFrom n := by
  intro fuel
  induction fuel with
  | zero => intro n h2 hle; omega
  | succ f ih =>
    intro n h2 hle
    obtain ⟨k, rfl⟩ : ∃ k, n = k + 1 := ⟨n - 1, by omega⟩
    rw [Src.whileFuel, lookupFrom]
    simp only [if_true, Int.toNat_natCast]
    rcases Option.eq_none_or_eq_some (findRow (k + 1)) with hr | ⟨r, hr⟩
    · simp only [hr, Option.isSome_none, Bool.false_eq_true, if_false]
      rw [show ((k + 1 : Nat) : Int) - 1 = (k : Int) by omega]
      exact ih k (ThreadLookup.two_le_of_none k (by omega) hr) (by omega)
    · simp only [hr, Option.isSome_some, if_true, Option.bind_some, Int.toNat_natCast]

theorem m_table_lookup (m : Int) : Src.metric_thread.m_table_lookup m = Thread.lookup m := by
  unfold Src.metric_thread.m_table_lookup Thread.lookup
  simp only
  by_cases h : m < 2
  · simp only [h, decide_true, if_true]
    exact walk 2 2 (by omega) (by omega)
  · simp only [h, decide_false, Bool.false_eq_true, if_false]
    obtain ⟨n, rfl⟩ : ∃ n : Nat, m = n := ⟨m.toNat, by omega⟩
    simp only [Int.toNat_natCast]
    exact walk n n (by omega) (by omega)

end ScadVerif.TieThreadLookup
