/-
`C01.emit_parses` about the transcribed source (`Src.Scad.fmt`, regenerated from /repo on every run) instead of the
model, for `allPlain` trees.  `C01.shape_preserved` speaks of `toStmt` alone and needs no restating; the sequence and
brace theorems are not restated.  `[OfNat ν 0]` (also in SrcC02/SrcC13): the never-read default of a transcribed
`getD` (Tie/Emit.lean).
-/
import ScadVerif.Props.C01
import ScadVerif.Tie.Emit
namespace ScadVerif.SrcC01
open ScadVerif ScadVerif.Spec ScadVerif.ParserLemmas

section
variable {ν : Type} [OfNat ν 0] (showNum : ν → List Char) (hnum : ∀ x, IsNumeral (showNum x) = true)
include hnum

theorem fmt_parses (t : Scad ν) (hwf : C01.WellFormed showNum t) (hp : TieEmit.allPlain t) :
    parseProgram (Src.Scad.fmt showNum t) = some [toStmt showNum t] := by
  rw [TieEmit.emit_eq showNum t hp]
  exact C01.emit_parses showNum hnum t hwf
end

end ScadVerif.SrcC01
