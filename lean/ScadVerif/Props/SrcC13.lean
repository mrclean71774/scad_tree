/-
`C13.fileContent_parses` about the transcribed source, for three of the five `scad_file!` arms.  The `fa=`, `fs=` arms
and `Scad::save` are tied in Tie/File.lean too (`arm_fa`, `arm_fs`, `save`) and compose the same way.
-/
import ScadVerif.Props.C13
import ScadVerif.Tie.File
namespace ScadVerif.SrcC13
open ScadVerif ScadVerif.Spec ScadVerif.ParserLemmas

variable {ν : Type} [OfNat ν 0] (showNum : ν → List Char)

theorem arm_fa_fs_parses (hnum : ∀ x, IsNumeral (showNum x) = true) (a s : ν) (cs : List (Scad ν))
    (hwf : ∀ t ∈ cs, C01.WellFormed showNum t) (hp : ∀ t ∈ cs, TieEmit.allPlain t) :
    parseFile (Src.scadFile.armFaFs showNum a s cs) =
      some (C13.settingTops showNum (.faFs a s) ++ cs.map fun t => Top.stmt (toStmt showNum t)) := by
  rw [TieFile.arm_fa_fs showNum a s cs hp]
  exact C13.fileContent_parses showNum hnum (.faFs a s) cs hwf

theorem arm_fn_parses (hnum : ∀ x, IsNumeral (showNum x) = true) (n : Nat) (cs : List (Scad ν))
    (hwf : ∀ t ∈ cs, C01.WellFormed showNum t) (hp : ∀ t ∈ cs, TieEmit.allPlain t) :
    parseFile (Src.scadFile.armFn showNum n cs) =
      some (C13.settingTops showNum (.fn n) ++ cs.map fun t => Top.stmt (toStmt showNum t)) := by
  rw [TieFile.arm_fn showNum n cs hp]
  exact C13.fileContent_parses showNum hnum (.fn n) cs hwf

theorem arm_plain_parses (hnum : ∀ x, IsNumeral (showNum x) = true) (cs : List (Scad ν))
    (hwf : ∀ t ∈ cs, C01.WellFormed showNum t) (hp : ∀ t ∈ cs, TieEmit.allPlain t) :
    parseFile (Src.scadFile.armPlain showNum cs) =
      some (C13.settingTops showNum .none ++ cs.map fun t => Top.stmt (toStmt showNum t)) := by
  rw [TieFile.arm_plain showNum cs hp]
  exact C13.fileContent_parses showNum hnum .none cs hwf

end ScadVerif.SrcC13
