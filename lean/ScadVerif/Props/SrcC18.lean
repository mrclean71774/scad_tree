/-
`C18.Grows` restated about the *transcribed source* (`Tie/Viewer.lean`) for six adders of viewer.rs.  For the
others it follows from `C18.step_grows` and `TieViewer.step_eq`, which names the transcribed adder of every
model step.
-/
import ScadVerif.Props.C18
import ScadVerif.Tie.Viewer
namespace ScadVerif.SrcC18
open ScadVerif ScadVerif.Viewer

theorem add_pt3_grows (st : State ℝ) (p : Pt3 ℝ) (c : List Char) : C18.Grows st (Src.Viewer.add_pt3 st p c) := by
  rw [TieViewer.add_pt3]; exact C18.push_grows _ _
theorem add_pt3s_grows (st : State ℝ) (ps : List (Pt3 ℝ)) (c : List Char) :
    C18.Grows st (Src.Viewer.add_pt3s st ps c) := by
  rw [TieViewer.add_pt3s]; exact C18.pushGroup_grows _ _
theorem add_lines3d_grows (st st' : State ℝ) (es : List (Pt3 ℝ × Pt3 ℝ)) (c : List Char)
    (h : Src.Viewer.add_lines3d st es c = some st') : C18.Grows st st' := by
  rw [TieViewer.add_lines3d] at h; exact C18.addLines3d_grows st st' es c h
theorem add_lines2d_grows (st st' : State ℝ) (es : List (Pt2 ℝ × Pt2 ℝ)) (c : List Char)
    (h : Src.Viewer.add_lines2d st es c = some st') : C18.Grows st st' := by
  rw [TieViewer.add_lines2d] at h; exact C18.addLines2d_grows st st' es c h
theorem add_cubic_bezier_chain3d_grows (st st' : State ℝ) (ch : Dim3.Chain ℝ)
    (h : Src.Viewer.add_cubic_bezier_chain3d st ch = some st') : C18.Grows st st' := by
  rw [TieViewer.add_cubic_bezier_chain3d] at h; exact C18.step_grows st st' _ h
theorem add_bezier_star_grows (st st' : State ℝ) (ch : Dim2.Chain ℝ)
    (h : Src.Viewer.add_bezier_star st ch = some st') : C18.Grows st st' := by
  rw [TieViewer.add_bezier_star] at h; exact C18.step_grows st st' _ h

end ScadVerif.SrcC18
