/-
C05 — mesh builders put every ring where documented.

About Model/Dim3.lean (the model of dim3.rs) over ℝ, equal to the transcribed source by Tie/Polyhedron.lean.

First, what each builder returns, read off its text once (`*_some`): argument checks, point list, face list as caps
and strips; Props/C04.lean builds on these.  Then placement, per builder.  For `sweep`: a ring is a rigid copy of the
profile for any orthonormal frame, twist and path point — which of these `sweep` gives ring k is its definition in
the model, tied to the source, not restated as a theorem.

PARTIAL: "every end cap is a valid triangulation of the ring it closes" rests on C03's partial part; the oracle run
decides it on every generated mesh.  "The volume of a linear extrusion is profile area times height" is
`C04.linearExtrude_volume`.
-/
import ScadVerif.Props.C10
import ScadVerif.Lemmas.Fold
import ScadVerif.Model.Dim3
namespace ScadVerif.C05
open ScadVerif ScadVerif.Dim3 ScadVerif.Dim3.Polyhedron

noncomputable instance : HasTrunc ℝ := ⟨fun x => ⌊x⌋₊⟩  -- see the one in Lemmas/ThreadLemmas.lean

theorem strip_length (n lo hi : Nat) : (strip n lo hi).length = n := by simp [strip]

/-! ### what the builders return
An early `if c then none` of a builder's `do` block becomes the conjunct `¬c` (`Option.ite_none_left_eq_some`). -/
theorem loft_some {lower upper : List (Pt2 ℝ)} {height : ℝ} {p : Polyhedron ℝ} (h : loft lower upper height = some p) :
    lower.length = upper.length ∧ ∃ b t, Tri.triangulate2dRev lower = some b ∧ Tri.triangulate2d upper = some t ∧
      p = ⟨lower.map (·.asPt3 0) ++ upper.map (·.asPt3 height),
           triFaces 0 b ++ triFaces lower.length t ++ strip lower.length 0 1⟩ := by
  unfold loft at h
  simp only [Option.bind_eq_bind, Option.bind_none, Option.ite_none_left_eq_some, Option.bind_eq_some_iff,
    Option.pure_def, Option.some.injEq] at h
  obtain ⟨hl, b, hb, t, ht, rfl⟩ := h
  exact ⟨not_not.mp hl, b, t, hb, ht, rfl⟩

theorem linearExtrude_eq_loft (profile : List (Pt2 ℝ)) (height : ℝ) :
    linearExtrude profile height = loft profile profile height := by
  simp [linearExtrude, loft]

theorem cylinder_some {r height : ℝ} {seg : Nat} {p : Polyhedron ℝ} (h : cylinder r height seg = some p) :
    ∃ c, Dim2.circle r seg = some c ∧ linearExtrude c height = some p :=
  Option.bind_eq_some_iff.mp h

theorem rotateExtrude_some {profile2 : List (Pt2 ℝ)} {degrees : ℝ} {segments : Nat} {p : Polyhedron ℝ}
    (h : rotateExtrude profile2 degrees segments = some p) :
    let profile : List (Pt3 ℝ) := profile2.map fun q => ⟨q.x, 0, q.y⟩
    let n := profile2.length
    let a := degrees / (segments : ℝ)
    let mid := (List.range (segments - 1)).flatMap fun j => revolveRing profile a (j + 1)
    let body := (List.range (segments - 1)).flatMap fun j => stripRev n j (j + 1)
    (0 ≤ degrees ∧ degrees ≤ 360 ∧ 3 ≤ segments) ∧
    ((degrees = 360 ∧ p = ⟨profile ++ mid, body ++ (List.range n).map fun i =>
        [(segments - 1) * n + i, i, (i + 1) % n, (segments - 1) * n + (i + 1) % n]⟩) ∨
     (degrees ≠ 360 ∧ ∃ sc ec, Tri.triangulate3d profile ⟨0, -1, 0⟩ = some sc ∧
        Tri.triangulate3dRev profile ⟨0, -1, 0⟩ = some ec ∧
        p = ⟨profile ++ mid ++ revolveRing profile a segments,
          triFaces 0 sc ++ body ++ stripRev n (segments - 1) segments ++ triFaces (segments * n) ec⟩)) := by
  intro profile n a mid body
  unfold rotateExtrude at h
  simp only [Option.bind_eq_bind, Option.bind_none, Option.ite_none_left_eq_some] at h
  obtain ⟨hr, hs, h⟩ := h
  refine ⟨by simpa [Nat.not_lt.mp hs] using hr, ?_⟩
  cases he : Cmp.eqb degrees (lit 360 : ℝ) with
  | true =>
    have hd : degrees = 360 := by simpa using he
    simp only [he, Bool.not_true, Bool.false_eq_true, if_false, Option.pure_def, Option.bind_some,
      Option.some.injEq] at h
    subst h
    exact .inl ⟨hd, by simp only [List.length_map, profile, n, a, mid, body, cast_eq_natCast]⟩
  | false =>
    have hd : degrees ≠ 360 := fun hd => by
      have : Cmp.eqb degrees (lit 360 : ℝ) = true := by simpa using hd
      rw [he] at this; cases this
    simp only [he, Bool.not_false, if_true, Option.pure_def, Option.bind_eq_some_iff,
      Option.map_eq_some_iff, Option.some.injEq] at h
    obtain ⟨_, ⟨sc, hsc, rfl⟩, ec, hec, rfl⟩ := h
    exact .inr ⟨hd, sc, ec, hsc, hec, by simp only [List.length_map, profile, n, a, mid, body, cast_eq_natCast]⟩

theorem sweep_some {profile2 : List (Pt2 ℝ)} {path : List (Pt3 ℝ)} {twist : ℝ} {closed : Bool} {p : Polyhedron ℝ}
    (h : sweep profile2 path twist closed = some p) :
    let n := profile2.length
    let len := path.length
    let body := ((List.range (len - 2)).flatMap fun j => strip n j (j + 1)) ++ strip n (len - 2) (len - 1)
    2 ≤ len ∧ ∃ first mid last : List (Pt3 ℝ), first.length = n ∧ mid.length = (len - 2) * n ∧ last.length = n ∧
      p.points = first ++ mid ++ last ∧
      ((closed = true ∧ p.faces = body ++ (List.range n).map fun i =>
          [(len - 1) * n + i, (len - 1) * n + (i + 1) % n, (i + 1) % n, i]) ∨
       (closed = false ∧ ∃ (d0 dL : Pt3 ℝ) (sc ec : List Nat), Tri.triangulate3dRev first d0 = some sc ∧
          Tri.triangulate3d last dL = some ec ∧ p.faces = triFaces 0 sc ++ body ++ triFaces ((len - 1) * n) ec)) := by
  intro n len body
  unfold sweep at h
  simp only [Option.bind_eq_bind, Option.bind_none, Option.ite_none_left_eq_some] at h
  obtain ⟨hl, h⟩ := h
  refine ⟨by omega, ?_⟩
  have hr : ∀ m tw w a, (sweepRing (List.map (fun x => x.asPt3 0) profile2) m tw w a).length = n := fun m tw w a => by
    simp only [sweepRing, List.length_map, n]
  have hmid : ∀ (g : Nat → List (Pt3 ℝ)), (∀ j, (g j).length = n) →
      ((List.range (len - 2)).flatMap g).length = (len - 2) * n := fun g hg => by
    rw [flatMap_length_const _ _ n (fun j _ => hg j), List.length_range]
  cases closed with
  | true =>
    cases h
    exact ⟨_, _, _, hr _ _ _ _, hmid _ (fun j => hr _ _ _ _), hr _ _ _ _, rfl, .inl ⟨rfl, by simp only [List.length_map, List.nil_append, body, n, len]⟩⟩
  | false =>
    simp only [Bool.false_eq_true, if_false, Option.pure_def, Option.bind_eq_some_iff,
      Option.map_eq_some_iff, Option.some.injEq] at h
    obtain ⟨_, ⟨sc, hsc, rfl⟩, ec, hec, rfl⟩ := h
    exact ⟨_, _, _, hr _ _ _ _, hmid _ (fun j => hr _ _ _ _), hr _ _ _ _, rfl,
      .inr ⟨rfl, _, _, sc, ec, hsc, hec, by simp only [List.length_map, List.append_assoc, body, n, len]⟩⟩

/-- **loft**: `lower` at z = 0, `upper` at z = height; differing lengths rejected -/
theorem loft_points (lower upper : List (Pt2 ℝ)) (height : ℝ) (p : Polyhedron ℝ)
    (h : loft lower upper height = some p) :
    lower.length = upper.length ∧
      p.points = lower.map (·.asPt3 0) ++ upper.map (·.asPt3 height) := by
  obtain ⟨hl, _, _, _, _, rfl⟩ := loft_some h
  exact ⟨hl, rfl⟩

/-- **linear_extrude**: the profile, unchanged, at z = 0 and z = height -/
theorem linearExtrude_points (profile : List (Pt2 ℝ)) (height : ℝ) (p : Polyhedron ℝ)
    (h : linearExtrude profile height = some p) :
    p.points = profile.map (·.asPt3 0) ++ profile.map (·.asPt3 height) :=
  (loft_points profile profile height p (linearExtrude_eq_loft profile height ▸ h)).2

theorem linearExtrude_ring (profile : List (Pt2 ℝ)) (height : ℝ) (p : Polyhedron ℝ)
    (h : linearExtrude profile height = some p) (i : Nat) (hi : i < profile.length) :
    p.points[i]? = some ⟨profile[i].x, profile[i].y, 0⟩ ∧
    p.points[profile.length + i]? = some ⟨profile[i].x, profile[i].y, height⟩ := by
  rw [linearExtrude_points profile height p h]
  constructor
  · rw [List.getElem?_append_left (by simpa using hi)]; simp [hi, Pt2.asPt3]
  · rw [List.getElem?_append_right (by simp)]; simp [hi, Pt2.asPt3]

/-- **cylinder** is the linear extrusion of the `segments`-gon -/
theorem cylinder_points (r height : ℝ) (seg : Nat) (p : Polyhedron ℝ)
    (h : cylinder r height seg = some p) :
    ∃ c, Dim2.circle r seg = some c ∧ p.points = c.map (·.asPt3 0) ++ c.map (·.asPt3 height) := by
  obtain ⟨c, hc, h⟩ := cylinder_some h
  exact ⟨c, hc, linearExtrude_points c height p h⟩

/-! ### rotate_extrude -/
/-- **copy k of the profile**: in the half-plane at angle `k·a` about Z, radius and height kept -/
theorem revolveRing_get (profile : List (Pt3 ℝ)) (a : ℝ) (k i : Nat) (hi : i < profile.length) :
    (revolveRing profile a k)[i]? =
      some ⟨profile[i].x * dcos (a * k), profile[i].x * dsin (a * k), profile[i].z⟩ := by
  simp [revolveRing, hi]
theorem revolveRing_length (profile : List (Pt3 ℝ)) (a : ℝ) (k : Nat) :
    (revolveRing profile a k).length = profile.length := by simp [revolveRing]
theorem revolve_keeps_radius (x a : ℝ) (k : Nat) :
    (x * dcos (a * k)) ^ 2 + (x * dsin (a * k)) ^ 2 = x ^ 2 := by
  linear_combination x ^ 2 * cs_unit (a * k)
theorem revolveRing_zero (profile2 : List (Pt2 ℝ)) (a : ℝ) :
    revolveRing (profile2.map fun p => (⟨p.x, 0, p.y⟩ : Pt3 ℝ)) a 0 =
      profile2.map fun p => (⟨p.x, 0, p.y⟩ : Pt3 ℝ) := by
  simp [revolveRing, dsin, dcos, toRad]

theorem rotateExtrude_points (profile2 : List (Pt2 ℝ)) (degrees : ℝ) (segments : Nat) (p : Polyhedron ℝ)
    (h : rotateExtrude profile2 degrees segments = some p) :
    let profile : List (Pt3 ℝ) := profile2.map fun q => ⟨q.x, 0, q.y⟩
    let a := degrees / (segments : ℝ)
    (0 ≤ degrees ∧ degrees ≤ 360 ∧ 3 ≤ segments) ∧
    p.points = profile ++ ((List.range (segments - 1)).flatMap fun j => revolveRing profile a (j + 1)) ++
      (if degrees = 360 then [] else revolveRing profile a segments) := by
  obtain ⟨hc, ⟨rfl, rfl⟩ | ⟨hd, _, _, _, _, rfl⟩⟩ := rotateExtrude_some h
  · exact ⟨hc, by simp⟩
  · exact ⟨hc, by simp [hd]⟩

/-! ### sweep -/
theorem sweepRing_length (profile : List (Pt3 ℝ)) (m : Mt4 ℝ) (tw : Option ℝ) (w : ℝ) (at_ : Pt3 ℝ) :
    (sweepRing profile m tw w at_).length = profile.length := by simp [sweepRing]
theorem sweepRing_get (profile : List (Pt3 ℝ)) (m : Mt4 ℝ) (t w : ℝ) (at_ : Pt3 ℝ) (i : Nat)
    (hi : i < profile.length) :
    (sweepRing profile m (some t) w at_)[i]? =
      some (Pt3.add (Pt4.asPt3 (Mt4.mulVec m ((profile[i].rotatedZ t).asPt4 w))) at_) := by
  simp [sweepRing, hi]

def dist2 (a b : Pt3 ℝ) : ℝ := (Pt3.sub a b).dot (Pt3.sub a b)

theorem frame_rigid (m : Mt4 ℝ) (hm : Spec.IsProperRotation (C10.cols m)) (w : ℝ) (at_ u v : Pt3 ℝ) :
    dist2 (Pt3.add (Pt4.asPt3 (Mt4.mulVec m (u.asPt4 w))) at_)
          (Pt3.add (Pt4.asPt3 (Mt4.mulVec m (v.asPt4 w))) at_) = dist2 u v := by
  obtain ⟨h1, h2, h3, h4, h5, h6, _⟩ := hm
  simp only [C10.cols, Pt3.dot, Pt4.asPt3] at h1 h2 h3 h4 h5 h6
  simp only [dist2, Pt3.sub, Pt3.add, Pt3.dot, Pt4.asPt3, Mt4.mulVec, Mt4.transposed, Pt4.dot4, Pt3.asPt4]
  linear_combination ((u.x - v.x) * (u.x - v.x)) * h1 + ((u.y - v.y) * (u.y - v.y)) * h2 +
    ((u.z - v.z) * (u.z - v.z)) * h3 + (2 * (u.x - v.x) * (u.y - v.y)) * h4 +
    (2 * (u.x - v.x) * (u.z - v.z)) * h5 + (2 * (u.y - v.y) * (u.z - v.z)) * h6

theorem twist_rigid (p q : Pt3 ℝ) (t : ℝ) : dist2 (p.rotatedZ t) (q.rotatedZ t) = dist2 p q := by
  have h := cs_unit t
  simp only [dist2, Pt3.sub, Pt3.dot, Pt3.rotatedZ, Pt3.rotatedZCS]
  linear_combination ((p.x - q.x) * (p.x - q.x) + (p.y - q.y) * (p.y - q.y)) * h

/-- **C05, sweep rings are rigid copies of the profile**, for a frame with orthonormal columns (as `look_at_matrix_lh`
with `sweep`'s up = +Z has for every direction, `C10.lookAt_upZ`; for eye = center it is the identity,
`C10.lookAtLh_same`), any twist, any path point -/
theorem sweepRing_rigid (profile : List (Pt3 ℝ)) (m : Mt4 ℝ) (hm : Spec.IsProperRotation (C10.cols m))
    (tw : Option ℝ) (w : ℝ) (at_ : Pt3 ℝ) (i j : Nat) (hi : i < profile.length) (hj : j < profile.length) :
    ∃ P Q, (sweepRing profile m tw w at_)[i]? = some P ∧ (sweepRing profile m tw w at_)[j]? = some Q ∧
      dist2 P Q = dist2 profile[i] profile[j] := by
  simp only [sweepRing, List.getElem?_map, List.getElem?_eq_getElem hi, List.getElem?_eq_getElem hj, Option.map_some]
  refine ⟨_, _, rfl, rfl, ?_⟩
  rw [frame_rigid m hm]
  cases tw with
  | none => rfl
  | some t => exact twist_rigid _ _ t


/-! ### transforms move points and leave faces untouched -/
theorem translate_faces (p : Polyhedron ℝ) (d : Pt3 ℝ) : (p.translate d).faces = p.faces := rfl
theorem applyMatrix_faces (p : Polyhedron ℝ) (m : Mt4 ℝ) : (p.applyMatrix m).faces = p.faces := rfl
theorem rotateX_faces (p : Polyhedron ℝ) (a : ℝ) : (p.rotateX a).faces = p.faces := rfl
theorem rotateY_faces (p : Polyhedron ℝ) (a : ℝ) : (p.rotateY a).faces = p.faces := rfl
theorem rotateZ_faces (p : Polyhedron ℝ) (a : ℝ) : (p.rotateZ a).faces = p.faces := rfl
theorem translate_points (p : Polyhedron ℝ) (d : Pt3 ℝ) :
    (p.translate d).points = Pt3s.translate p.points d := rfl
theorem applyMatrix_points (p : Polyhedron ℝ) (m : Mt4 ℝ) :
    (p.applyMatrix m).points = Mt4.applyMatrix p.points m := rfl
theorem transforms_keep_count (p : Polyhedron ℝ) (d : Pt3 ℝ) (m : Mt4 ℝ) (a : ℝ) :
    (p.translate d).points.length = p.points.length ∧
    (p.applyMatrix m).points.length = p.points.length ∧
    (p.rotateX a).points.length = p.points.length ∧
    (p.rotateY a).points.length = p.points.length ∧
    (p.rotateZ a).points.length = p.points.length := by
  simp [Polyhedron.translate, Polyhedron.applyMatrix, Polyhedron.rotateX, Polyhedron.rotateY,
    Polyhedron.rotateZ, Pt3s.translate, Mt4.applyMatrix, Pt3s.rotateX, Pt3s.rotateY, Pt3s.rotateZ]

end ScadVerif.C05
