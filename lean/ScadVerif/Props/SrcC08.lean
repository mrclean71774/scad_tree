/-
A chain theorem of C08 restated about the *transcribed source* (`Tie/Chain.lean`).
-/
import ScadVerif.Props.C08
import ScadVerif.Tie.Chain
namespace ScadVerif.SrcC08
open ScadVerif ScadVerif.Dim2

theorem gen_points_length (ch : Chain ℝ) :
    (Src.CubicBezierChain2D.gen_points ch).length =
      if ch.closed then C08.segSum ch.curves else C08.segSum ch.curves + 1 := by
  rw [TieChain.chain_gen_points2]
  exact C08.genPoints_length ch

end ScadVerif.SrcC08
