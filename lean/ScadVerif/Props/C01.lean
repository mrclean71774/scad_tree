/-
C01 — emitted text is well-formed OpenSCAD with the same shape as the tree.

About `Scad.emit` / `emitAll` (Model/Scad.lean), the model of `impl Display for Scad` (tied to the Rust code in
Tie/Emit.lean; `emit_parses` restated about it in Props/SrcC01.lean), and the parser of Spec/OpenScad.lean (OpenSCAD's
module-instantiation grammar); trees of any depth and fan-out.

`ν`: the finite numbers.  The one assumption on its printer, `hnum`: a finite number prints as `-?digits(.digits)?`,
as Rust's `Display for f64` does (trusted; any other form makes the parse of the correspondence run fail).
-/
import ScadVerif.Lemmas.Parser
import ScadVerif.Lemmas.Brace
namespace ScadVerif.C01
open ScadVerif ScadVerif.Spec ScadVerif.ParserLemmas

variable {ν : Type} (showNum : ν → List Char)

theorem emitAll_append (a b : List (Scad ν)) :
    emitAll showNum (a ++ b) = emitAll showNum a ++ emitAll showNum b := by
  simp [emitAll]
theorem emitAll_cons (t : Scad ν) (ts : List (Scad ν)) :
    emitAll showNum (t :: ts) = t.emit showNum ++ emitAll showNum ts :=
  ParserLemmas.emitAll_cons showNum t ts

/- The trees the property quantifies over: no children under primitives, any number (also none) elsewhere; every node
prints a call (excluded: a `Color`/`Offset` node with no alternative set, which prints nothing); strings are Unicode
scalar values without NUL. -/
mutual
def WellFormed : Scad ν → Prop
  | .mk op cs =>
    (op.header showNum).isSome = true ∧ (∀ s ∈ op.strings, NoNul s) ∧
      (op.isPrimitive = true → cs = .nil) ∧ WellFormedList cs
def WellFormedList : ScadList ν → Prop
  | .nil => True
  | .cons h t => WellFormed h ∧ WellFormedList t
end

mutual
def treeShape : Scad ν → Shape
  | .mk op cs => .node ((op.header showNum).map (·.name) |>.getD []) (treeShapes cs)
def treeShapes : ScadList ν → List Shape
  | .nil => []
  | .cons h t => treeShape h :: treeShapes t
end

theorem header_of_wellFormed {op : ScadOp ν} {cs : ScadList ν} (h : WellFormed showNum (.mk op cs)) :
    ∃ hd, op.header showNum = some hd :=
  Option.isSome_iff_exists.mp h.1

section
variable (hnum : ∀ x, IsNumeral (showNum x) = true)
include hnum

mutual
theorem treeOK_of_wellFormed : (t : Scad ν) → WellFormed showNum t → TreeOK showNum t
  | .mk op cs, hwf@⟨_, hs, hp, hcs⟩ =>
    have ⟨h, hop⟩ := header_of_wellFormed showNum hwf
    ⟨⟨h, hop, header_ok showNum hnum op hs h hop⟩, hp, treesOK_of_wellFormed cs hcs⟩
theorem treesOK_of_wellFormed : (cs : ScadList ν) → WellFormedList showNum cs → TreesOK showNum cs
  | .nil, _ => True.intro
  | .cons h t, ⟨h1, h2⟩ => ⟨treeOK_of_wellFormed h h1, treesOK_of_wellFormed t h2⟩
end

/-- **C01, sequences.** The text emitted for a list of well-formed trees parses under OpenSCAD's grammar as exactly
that many statements, the `i`-th the statement form of the `i`-th tree. -/
theorem emitAll_parses (ts : List (Scad ν)) (hwf : ∀ t ∈ ts, WellFormed showNum t) :
    parseProgram (emitAll showNum ts) = some (ts.map (toStmt showNum)) :=
  parseProgram_emitAll showNum ts fun t ht => treeOK_of_wellFormed showNum hnum t (hwf t ht)

/-- **C01, one tree.** The emitted text is exactly one complete statement. -/
theorem emit_parses (t : Scad ν) (hwf : WellFormed showNum t) :
    parseProgram (t.emit showNum) = some [toStmt showNum t] := by
  have := emitAll_parses showNum hnum [t] (by simpa using hwf)
  simpa [emitAll] using this

/-- … and parsing stops at its line end, whatever comes next. -/
theorem emit_consumed_exactly (t : Scad ν) (hwf : WellFormed showNum t) (rest : List Char) :
    pStmt ((t.emit showNum ++ rest).length + 1) (t.emit showNum ++ rest) =
      some (toStmt showNum t, '\n' :: rest) :=
  pStmt_text_fuel showNum [] rfl t (treeOK_of_wellFormed showNum hnum t hwf) rest
omit hnum

mutual
/-- **C01, shape.** The parsed statement has the same call at every node and the same children in the same order as
the tree; a block exactly at the non-primitive nodes. -/
theorem shape_preserved : (t : Scad ν) → WellFormed showNum t →
    (toStmt showNum t).shape = treeShape showNum t
  | .mk op cs, hwf@⟨_, _, hp, hcs⟩ => by
    obtain ⟨h, hop⟩ := header_of_wellFormed showNum hwf
    rw [toStmt_mk showNum hop]
    cases hprim : op.isPrimitive with
    | true =>
      obtain rfl := hp hprim
      simp [hop, Stmt.shape, treeShape, treeShapes]
    | false => simp [hop, Stmt.shape, treeShape, shapes_preserved cs hcs]
theorem shapes_preserved : (cs : ScadList ν) → WellFormedList showNum cs →
    (toStmts showNum cs).shapes = treeShapes showNum cs
  | .nil, _ => by simp [toStmts, StmtList.shapes, treeShapes]
  | .cons h t, ⟨h1, h2⟩ => by
    simp [toStmts, StmtList.shapes, treeShapes, shape_preserved h h1, shapes_preserved t h2]
end

/-- a block `{ … }` is opened (and, since the text parses, closed) exactly for non-primitives -/
theorem block_iff_not_primitive (op : ScadOp ν) (cs : ScadList ν) (h : WellFormed showNum (.mk op cs)) :
    ((toStmt showNum (.mk op cs)).body.isSome = !op.isPrimitive) := by
  obtain ⟨hd, hop⟩ := header_of_wellFormed showNum h
  rw [toStmt_mk showNum hop]
  cases op.isPrimitive <;> rfl
end

/-- **C01, every opened block is closed.** The brace counter the oracle runs over the crate's text (`braceDepthOK`:
never negative, zero at the end, braces in string literals ignored) accepts the emitted text of every list of
well-formed trees. -/
theorem braces_balanced (hnum : ∀ x, IsNumeral (showNum x) = true) (ts : List (Scad ν))
    (hwf : ∀ t ∈ ts, WellFormed showNum t) : braceDepthOK (emitAll showNum ts) = true := by
  have := BraceLemmas.neutral_emitAll showNum ts (fun t ht => treeOK_of_wellFormed showNum hnum t (hwf t ht)) [] 0
  rw [List.append_nil] at this
  unfold braceDepthOK
  rw [this, braceDepthOK.go]
  simp

/-! non-vacuity: a tree over `Nat` with a childless operator and an empty point list meets the hypotheses -/
example : ∀ x : Nat, IsNumeral (natDigits x) = true := natDigits_numeral
example : WellFormed natDigits
    (Scad.node .union [Scad.node (.circle 3 none none (some 12)) [], Scad.node .hull [],
      Scad.node (.polygon [] none 1) []]) := by
  simp [WellFormed, WellFormedList, Scad.node, ScadList.ofList, ScadOp.header, ScadOp.isPrimitive,
    ScadOp.strings]

end ScadVerif.C01
