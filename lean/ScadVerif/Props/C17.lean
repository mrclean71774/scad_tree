/-
C17 — polar_array and cylinder chamfers place unchanged copies symmetrically.
`polar_array` builds a left-deep union by a fold; `peel` reads the placements back off that shape.
`top_is_mirror` and `revolve_symmetric` do not mention the model: `Spec.rotX (-1) 0` (cosine, sine) is retyped by
hand for the `rotateV ⟨180, 0, 0⟩` that `chamfer_union` exhibits; no theorem links the two.
-/
import ScadVerif.Lemmas.RealInst
import ScadVerif.Model.Parts
import ScadVerif.Spec.Rotation
set_option linter.unusedSectionVars false
namespace ScadVerif.C17
open ScadVerif ScadVerif.Parts

/-- as in Props/C15.lean: only Model/Parts.lean's section variables ask for it -/
noncomputable instance : HasTrunc ℝ := ⟨fun x => ⌊x⌋₊⟩

/-- peel `n` placements `… + rotate([0,0,a]) { leaf }` off a left-deep union (outermost last).  Raw `mk`/`cons`
patterns: `Scad` is the mutual pair `Scad`/`ScadList` (Model/Scad.lean); `Scad.node`, taking a `List`, is a function
over it, not a constructor. -/
def peel {ν : Type} : Nat → Scad ν → Option (List (ν × Scad ν) × Scad ν)
  | 0, t => some ([], t)
  | n + 1, .mk .union (.cons l (.cons (.mk (.rotate none false v) (.cons leaf .nil)) .nil)) =>
    (peel n l).map fun (ps, base) => (ps ++ [(v.z, leaf)], base)
  | _ + 1, _ => none

def addAll (s : Scad ℝ) (as : List ℝ) (base : Scad ℝ) : Scad ℝ :=
  as.foldl (fun r a => Scad.add r (rotateV ⟨0, 0, a⟩ [s])) base

theorem peel_addAll (s base : Scad ℝ) (as : List ℝ) :
    peel as.length (addAll s as base) = some (as.map (·, s), base) := by
  induction as using List.reverseRecOn with
  | nil => simp [addAll, peel]
  | append_singleton as a ih =>
    have e : addAll s (as ++ [a]) base = Scad.add (addAll s as base) (rotateV ⟨0, 0, a⟩ [s]) := by
      simp [addAll, List.foldl_append]
    rw [e, List.length_append, List.length_singleton]
    simp only [Scad.add, rotateV, Scad.node, ScadList.ofList, peel, ih, Option.map_some, List.map_append,
      List.map_cons, List.map_nil]

noncomputable def angle (count : Nat) (degrees : ℝ) (i : Nat) : ℝ :=
  (i : ℝ) * -degrees / ((if degrees = 360 then count else count - 1 : Nat) : ℝ)

/-- `polar_array(s, count, degrees)` is `s` plus, for k < count, the unmodified `s` rotated about Z by
`angle k`.  For `count = 0` the model's truncated `count - 1` gives `s`, where the source's `u64`
subtraction underflows when `degrees ≠ 360` (a panic in a debug build). -/
theorem polarArray_placements (s : Scad ℝ) (count : Nat) (degrees : ℝ) (h : degrees ≤ 360) :
    ∃ t, polarArray s count degrees = some t ∧
      peel count t = some ((List.range count).map fun i => (angle count degrees i, s), s) := by
  have hle : Cmp.leb degrees (lit 360 : ℝ) = true := by simp [lit, h]
  refine ⟨addAll s ((List.range count).map (angle count degrees)) s, ?_, ?_⟩
  · simp only [polarArray, hle, Bool.not_true, Bool.false_eq_true, if_false, addAll, List.foldl_map]
    refine congrArg some (congrArg (List.foldl · s _) (funext fun r => funext fun i => ?_))
    simp [angle, lit, Cmp.eqb]
  · have := peel_addAll s s ((List.range count).map (angle count degrees))
    rw [List.length_map, List.length_range, List.map_map] at this
    exact this

/-- the step: 360/count for a full circle, degrees/(count−1) otherwise -/
theorem angle_full (count i : Nat) (hc : 0 < count) : angle count 360 i = -((i : ℝ) * (360 / count)) := by
  rw [angle, if_pos rfl]; ring
theorem angle_partial (count i : Nat) (degrees : ℝ) (hd : degrees ≠ 360) (hc : 1 < count) :
    angle count degrees i = -((i : ℝ) * (degrees / ((count : ℝ) - 1))) := by
  rw [angle, if_neg hd, Nat.cast_sub hc.le, Nat.cast_one]; ring
theorem angle_zero (count : Nat) (degrees : ℝ) : angle count degrees 0 = 0 := by
  rw [angle, Nat.cast_zero, zero_mul, zero_div]

/-- the assertion `degrees <= 360` -/
theorem polarArray_rejects (s : Scad ℝ) (count : Nat) (degrees : ℝ) (h : 360 < degrees) :
    polarArray s count degrees = none := by
  simp [polarArray, h]

/-- one ring cutter at the bottom; *the same* ring, turned and lifted by the height, at the top -/
theorem chamfer_union (size over radius height : ℝ) (seg : Nat) :
    externalCylinderChamfer size over radius height seg false =
      union [externalCircleChamfer size over radius 360 seg,
        translate ⟨0, 0, height⟩ [rotateV ⟨180, 0, 0⟩ [externalCircleChamfer size over radius 360 seg]]] := by
  simp [externalCylinderChamfer, lit]
theorem circle_chamfer_structure (size over radius degrees : ℝ) (seg : Nat) :
    externalCircleChamfer size over radius degrees seg =
      Scad.node (.rotateExtrude degrees 5 none none (some seg))
        [translate ⟨radius + size / 2 + over / 2, -over, 0⟩
          [rotateA 90 [Scad.node (.polygon (Dim2.chamfer size over) none 1) []]]] := by
  simp [externalCircleChamfer, lit]
/-- `translate([0,0,h]) rotate([180,0,0])`: mirroring about the plane z = h/2 composed with y ↦ −y, which fixes
every full revolve about Z (`revolve_symmetric`) -/
theorem top_is_mirror (h : ℝ) (p : Pt3 ℝ) :
    Pt3.add (Spec.rotX (-1) 0 p) ⟨0, 0, h⟩ = ⟨p.x, -p.y, h - p.z⟩ := by
  ext <;> simp [Spec.rotX, Pt3.add]; ring
theorem revolve_symmetric (ρ z φ : ℝ) :
    (⟨ρ * Real.cos φ, -(ρ * Real.sin φ), z⟩ : Pt3 ℝ) = ⟨ρ * Real.cos (-φ), ρ * Real.sin (-φ), z⟩ := by
  simp

/-- the hypothesis of `polarArray_placements` is satisfiable -/
example : (360 : ℝ) ≤ 360 := le_refl _

end ScadVerif.C17
