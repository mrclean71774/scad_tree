/-
C02 — emitted arguments denote the node's parameters exactly.

Table facts, decided by the kernel over the enum tables regenerated from scad.rs; then the round trip: `decode_header`,
lifted to trees and composed with C01.  Gap: the table facts are about the names the Rust enums print (`Gen.*Names`),
but `ScadOp`'s enum-valued fields are arbitrary `List Char` that nothing links to a table: no table fact applies to a
tree, and `OpOK`'s keyword and colour conjuncts stay hypotheses (that no colour name begins with `#` is not stated even
of the table).  `hread`: a printed number reads back to itself (Rust's `Display`/`parse`, trusted).
-/
import ScadVerif.Lemmas.Decode
import ScadVerif.Props.C01
import ScadVerif.Gen.Enums
namespace ScadVerif.C02
open ScadVerif ScadVerif.Spec

-- same body as `ParserLemmas.NoNul`; opening both namespaces makes `NoNul` ambiguous
def NoNul (s : List Char) : Prop := ∀ c ∈ s, c ≠ '\x00'

/-- OpenSCAD's string lexer reads the library's escaped form back -/
theorem unescape_escape (s rest : List Char) (h : NoNul s) :
    pStrBody (escape s ++ '"' :: rest) = some (s, rest) :=
  ParserLemmas.pStrBody_escape s rest h

/-- every colour variant prints a name OpenSCAD knows — except `Browns`
(known_findings.json, `colour_name_unknown_to_openscad:Browns`) -/
theorem colour_known_except_Browns :
    ∀ n ∈ Gen.colorNames, n ≠ c!"Browns" → knownColour n = true := by decide +kernel
theorem Browns_unknown : c!"Browns" ∈ Gen.colorNames ∧ knownColour c!"Browns" = false := by decide +kernel

theorem keywords_known :
    (∀ n ∈ Gen.halignNames, halignKw.contains n = true) ∧
    (∀ n ∈ Gen.valignNames, valignKw.contains n = true) ∧
    (∀ n ∈ Gen.directionNames, directionKw.contains n = true) := by decide +kernel
/-- distinct variants print distinct names -/
theorem names_distinct :
    Gen.colorNames.Nodup ∧ Gen.halignNames.Nodup ∧ Gen.valignNames.Nodup ∧ Gen.directionNames.Nodup := by
  decide +kernel

/-- integers below 2^53 survive OpenSCAD's number type; 2^53+1 does not
(known_findings.json, `u64_not_exact_in_openscad_number:`) -/
theorem small_ints_exact (n : Nat) (h : n < 2 ^ 53) : exactInDouble n = true := by
  unfold exactInDouble
  have : Nat.log2 n ≤ 52 := by
    by_cases hn : n = 0
    · subst hn; decide
    · have := (Nat.log2_lt hn).mpr (show n < 2 ^ 53 from h); omega
  simp [this]
example : exactInDouble (2 ^ 53 + 1) = false := by decide +kernel

section Decode
open ScadVerif.ParserLemmas ScadVerif.DecodeLemmas
variable {ν : Type} (showNum : ν → List Char) (readNum : List Char → Option ν) (zero : ν)

/-- the `u64` fields of a node: what OpenSCAD has to hold in a double (`hn` of `decode_header`) -/
def nats : ScadOp ν → List Nat
  | .circle _ _ _ fn | .sphere _ _ _ fn | .cylinder _ _ _ _ _ _ fn => fn.toList
  | .polygon _ paths cv => (paths.getD []).flatten ++ [cv]
  | .text _ _ _ _ _ _ _ _ _ fn => fn.toList
  | .import_ _ cv | .surface _ _ _ cv | .minkowski cv | .resize _ _ _ _ cv => [cv]
  | .polyhedron _ faces cv => faces.flatten ++ [cv]
  | .linearExtrude _ _ cv _ _ slices fn => cv :: (slices.toList ++ fn.toList)
  | .rotateExtrude _ cv _ _ fn => cv :: fn.toList
  | _ => []

/-- The nodes the property speaks of: exactly one alternative of `Color`/`Offset` set; unused fields hold the value the
macros store there, so that "recovers every parameter" is equality of nodes. -/
def OpOK : ScadOp ν → Prop
  | .text _ _ _ halign valign _ direction _ _ _ =>
    halignKw.contains halign = true ∧ valignKw.contains valign = true ∧ directionKw.contains direction = true
  | .color rgba col hex alpha =>
    match rgba, col, hex with
    | some _, none, none => alpha = none
    | none, some c, none => knownColour c = true ∧ c.head? ≠ some '#'
    | none, none, some h => alpha = none ∧ h.head? = some '#'
    | _, _, _ => False
  | .offset r d ch =>
    match r, d with
    | some _, none => ch = false
    | none, some _ => True
    | _, _ => False
  | .rotate a sc v =>
    match a with
    | some _ => sc = true → v = ⟨zero, zero, zero⟩
    | none => sc = false
  | .resize _ auto isVec av _ => if isVec then auto = false else av = (false, false, false)
  | _ => True

/- `dec [facts]` reads one header back: slot form, `decodeOp` at the call's name, binding and lookups (`Slots` lemmas),
values (`v…_back`); `facts`: what needs `hn`, `hok` or, in the irregular arms, unfolding.  `hygiene false`: `showNum`,
`readNum`, `hread` are `decode_header`'s. -/
set_option hygiene false in
local macro "dec" "[" ts:Lean.Parser.Tactic.simpLemma,* "]" : tactic => `(tactic|
  simp +decide only [List.map_cons, List.map_nil, List.map_append, List.cons_append, List.nil_append,
    List.append_nil, toPArg, args_cons, toPArg_faFsFn, toPArg_optNat, Slots.args_append,
    decodeOp, signature, ↓reduceIte, Option.bind_eq_bind, Option.bind_some, Option.pure_def,
    bindArgs_slots, bindArgs_pos_slots, bindArgs_pos, Slots.all_env,
    req, optNum_eq, optNat'_eq, Slots.get_env_cons, Slots.get_env_nil, Option.or_none, readOpt_map,
    implies_true,
    vBool_back, vStr_back, vNum_back showNum readNum hread, vPt2_back showNum readNum hread,
    vPt3_back showNum readNum hread, vPt2s_back showNum readNum hread,
    vPt3s_back showNum readNum hread, $ts,*])

theorem decode_header (hread : ∀ x, readNum (showNum x) = some x) (op : ScadOp ν)
    (hok : OpOK zero op) (hn : ∀ n ∈ nats op, exactInDouble n = true) (h : Header)
    (hh : op.header showNum = some h) :
    decodeOp readNum zero h.name (h.args.map toPArg) = some op := by
  have ex := fun n h => vNat_back n (hn n h)
  cases op <;> simp only [ScadOp.header, Option.some.injEq] at hh
  case offset r d ch =>
    cases r with
    | some r =>
      simp only [Option.some.injEq] at hh; subst hh
      cases d <;> simp only [OpOK] at hok
      subst hok; dec []
    | none =>
      cases d with
      | some d => simp only [Option.some.injEq] at hh; subst hh; dec []
      | none => simp at hh
  case rotate a sc v =>
    cases a with
    | none =>
      simp only [Option.some.injEq] at hh; subst hh
      simp only [OpOK] at hok; subst hok
      dec [vPt3, vNum, toVal, toVals, vPt3?, vNum?, hread]
    | some a =>
      cases sc
      · simp only [if_false, Bool.false_eq_true, Option.some.injEq] at hh; subst hh
        dec [vPt3, vNum, toVal, toVals, vPt3?, vNum?, hread]
      · simp only [if_true, Option.some.injEq] at hh; subst hh
        simp only [OpOK, forall_const] at hok; subst hok
        dec [vNum, toVal, hread]
  case color rgba col hex alpha =>
    cases rgba with
    | some c =>
      simp only [Option.some.injEq] at hh; subst hh
      cases col <;> cases hex <;> simp only [OpOK] at hok
      subst hok
      dec [vPt4, vNum, toVal, toVals, vPt4?, vNum?, hread, readOpt, Option.isSome_none]
    | none =>
      cases col with
      | some c =>
        simp only [Option.some.injEq] at hh; subst hh
        cases hex <;> simp only [OpOK] at hok
        -- a name not beginning with `#` is looked up as a colour keyword
        cases alpha <;> dec [toVal, readOpt, hok.1] <;> (split; exact absurd rfl hok.2; rfl)
      | none =>
        cases hex with
        | some x =>
          simp only [Option.some.injEq] at hh; subst hh
          obtain ⟨rfl, hx⟩ := hok
          dec []
          cases x with
          | nil => simp at hx
          | cons ch t => obtain rfl : ch = '#' := by simpa using hx
                         rfl
        | none => simp at hh
  all_goals subst hh
  case union | difference | intersection | hull => rfl
  case square | cube | projection | translate | scale | mirror => dec []
  case circle fn | sphere fn | cylinder fn => dec [optNat_back fn hn]
  case rotateExtrude _ cv _ _ fn => dec [ex cv (.head _), optNat_back fn fun k hk => hn k (.tail _ hk)]
  case minkowski cv | surface cv | import_ cv => dec [ex cv (.head _)]
  case text fn =>
    dec [optNat_back fn hn, hok.1, hok.2.1, hok.2.2]
  case linearExtrude _ _ cv _ _ sl fn =>
    dec [ex cv (.head _), optNat_back sl fun k hk => hn k (.tail _ (List.mem_append_left _ hk)),
      optNat_back fn fun k hk => hn k (.tail _ (List.mem_append_right _ hk))]
  case polyhedron _ faces cv =>
    dec [ex cv (List.mem_append_right _ (.head _)),
      vPaths_back faces fun p hp n hnp => hn n (List.mem_append_left _ (List.mem_flatten.mpr ⟨p, hp, hnp⟩))]
  -- `paths`, `auto`: the decoder goes by the value's constructor, so split once the rest is read
  case polygon _ paths cv =>
    dec [ex cv (List.mem_append_right _ (.head _))]
    cases paths with
    | none => rfl
    | some ps =>
      have hp := vPaths_back ps fun p hp n hnp => hn n (List.mem_append_left _ (List.mem_flatten.mpr ⟨p, hp, hnp⟩))
      simp only [vPaths, toVal] at hp ⊢
      rw [hp]; rfl
  case resize _ _ isv _ cv =>
    dec [ex cv (.head _)]
    cases isv <;> simp only [OpOK, if_true, if_false, Bool.false_eq_true] at hok <;> subst hok <;> rfl

/- the property's trees are also `C01.WellFormed`, a separate hypothesis below -/
mutual
def TreeGood : Scad ν → Prop
  | .mk op cs => OpOK zero op ∧ (∀ n ∈ nats op, exactInDouble n = true) ∧ TreesGood cs
def TreesGood : ScadList ν → Prop
  | .nil => True
  | .cons h t => TreeGood h ∧ TreesGood t
end

mutual
theorem decodeStmt_toStmt (hread : ∀ x, readNum (showNum x) = some x) :
    (t : Scad ν) → C01.WellFormed showNum t → TreeGood zero t →
    decodeStmt readNum zero (toStmt showNum t) = some t
  | .mk op cs, hwf@⟨_, _, hp, hcs⟩, ⟨hok, hn, hg⟩ => by
    obtain ⟨h, hop⟩ := C01.header_of_wellFormed showNum hwf
    have hd := decode_header showNum readNum zero hread op hok hn h hop
    rw [toStmt_mk showNum hop]
    cases hprim : op.isPrimitive with
    | true =>
      obtain rfl := hp hprim
      simp [decodeStmt, hd, hprim]
    | false =>
      have ih := decodeStmts_toStmts hread cs hcs hg
      simp [decodeStmt, hd, hprim, ih]
theorem decodeStmts_toStmts (hread : ∀ x, readNum (showNum x) = some x) :
    (cs : ScadList ν) → C01.WellFormedList showNum cs → TreesGood zero cs →
    decodeStmts readNum zero (toStmts showNum cs) = some cs
  | .nil, _, _ => by simp [toStmts, decodeStmts]
  | .cons t ts, ⟨h1, h2⟩, ⟨g1, g2⟩ => by
    simp [toStmts, decodeStmts, decodeStmt_toStmt hread t h1 g1, decodeStmts_toStmts hread ts h2 g2]
end

/-- **C02, end to end.** Parsing the emitted text of good trees and binding every statement's arguments by OpenSCAD's
rules (the emitter writes every parameter, so no default is needed) recovers exactly the trees: optional settings
present exactly when set, scalar-or-vector choices in the recorded form. -/
theorem emitted_arguments_denote_parameters (hnum : ∀ x, IsNumeral (showNum x) = true)
    (hread : ∀ x, readNum (showNum x) = some x) (ts : List (Scad ν))
    (hwf : ∀ t ∈ ts, C01.WellFormed showNum t) (hg : ∀ t ∈ ts, TreeGood zero t) :
    (parseProgram (emitAll showNum ts)).bind (fun stmts => stmts.mapM (decodeStmt readNum zero)) = some ts := by
  rw [C01.emitAll_parses showNum hnum ts hwf]
  exact mapM_back (decodeStmt readNum zero) (toStmt showNum) ts fun t ht =>
    decodeStmt_toStmt showNum readNum zero hread t (hwf t ht) (hg t ht)

end Decode

/-! non-vacuity of `hnum` and `hread`: the integers below 2^53, in decimal -/
def Small := { n : Nat // n < 2 ^ 53 }
def showSmall (x : Small) : List Char := natDigits x.1
def readSmall (t : List Char) : Option Small :=
  (readNat t).bind fun n => if h : n < 2 ^ 53 then some ⟨n, h⟩ else none
example : (∀ x : Small, IsNumeral (showSmall x) = true) ∧ (∀ x : Small, readSmall (showSmall x) = some x) := by
  refine ⟨fun x => ParserLemmas.natDigits_numeral x.1, fun x => ?_⟩
  obtain ⟨n, hn⟩ := x
  simp [readSmall, showSmall, DecodeLemmas.readNat_natDigits n (small_ints_exact n hn), hn]

end ScadVerif.C02
