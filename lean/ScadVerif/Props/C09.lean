/-
C09 — Mt4 obeys 4×4 matrix algebra.

About Model/Mt4.lean over a commutative ring (`inverse`: a field whose `==` decides equality).  The
cofactor and determinant expressions of `Mt4::inverse` are regenerated from mt4.rs on every run
(Gen/Mt4Cof.lean) as polynomials in an index function `f : Nat → α`, so `adj_mul`, `mul_cof`, `det_mul`
are re-proved against the current source.  The `rfl` theorems too take their section's ring instance
(`linter.unusedSectionVars` is off).
-/
import ScadVerif.Lemmas.PtReal
set_option linter.unusedSectionVars false
namespace ScadVerif.C09
open ScadVerif

section Ring
variable {α : Type} [CommRing α]

theorem one_mulVec (p : Pt4 α) : Mt4.mulVec Mt4.identity p = p := by mt4_ext [Mt4.identity]
theorem mulVec_assoc (a b : Mt4 α) (p : Pt4 α) :
    Mt4.mulVec (Mt4.mul a b) p = Mt4.mulVec a (Mt4.mulVec b p) := by mt4_ext []
-- a column of `a * b` is `a * (that column of b)`: vector laws give matrix laws by `ext1`
theorem one_mul (a : Mt4 α) : Mt4.mul Mt4.identity a = a := by ext1 <;> exact one_mulVec _
theorem mul_assoc (a b c : Mt4 α) : Mt4.mul (Mt4.mul a b) c = Mt4.mul a (Mt4.mul b c) := by
  ext1 <;> exact mulVec_assoc a b _
theorem mul_one (a : Mt4 α) : Mt4.mul a Mt4.identity = a := by mt4_ext [Mt4.identity]
theorem transposed_transposed (a : Mt4 α) : a.transposed.transposed = a := rfl
theorem transposed_mul (a b : Mt4 α) :
    (Mt4.mul a b).transposed = Mt4.mul b.transposed a.transposed := by mt4_ext []
theorem transposed_identity : (Mt4.identity : Mt4 α).transposed = Mt4.identity := rfl

theorem translate_point (x y z : α) (p : Pt3 α) :
    Mt4.mulVec (Mt4.translateMatrix x y z) (p.asPt4 1) = (Pt3.add p ⟨x, y, z⟩).asPt4 1 := by
  mt4_ext [Mt4.translateMatrix, Mt4.identity, Pt3.asPt4, Pt3.add]
theorem translate_direction (x y z : α) (p : Pt3 α) :
    Mt4.mulVec (Mt4.translateMatrix x y z) (p.asPt4 0) = p.asPt4 0 := by
  mt4_ext [Mt4.translateMatrix, Mt4.identity, Pt3.asPt4]
theorem scale_apply (x y z : α) (p : Pt4 α) :
    Mt4.mulVec (Mt4.scaleMatrix x y z) p = ⟨x * p.x, y * p.y, z * p.z, p.w⟩ := by
  mt4_ext [Mt4.scaleMatrix, Mt4.identity]
theorem translate_compose (a b c x y z : α) :
    Mt4.mul (Mt4.translateMatrix a b c) (Mt4.translateMatrix x y z) =
      Mt4.translateMatrix (a + x) (b + y) (c + z) := by mt4_ext [Mt4.translateMatrix, Mt4.identity]

theorem applyMatrix_affine (m : Mt4 α) (ps : List (Pt3 α)) :
    Mt4.applyMatrix ps m = ps.map (fun p => Pt3.add (Mt4.mulPt3 m p) ⟨m.w.x, m.w.y, m.w.z⟩) :=
  List.map_congr_left fun p _ => by mt4_ext [Mt4.mulPt3, Pt3.dot, Pt3.asPt4, Pt4.asPt3, Pt3.add]
/-- a matrix without translation part moves points as it moves directions -/
theorem applyMatrix_linear (m : Mt4 α) (hw : m.w.x = 0 ∧ m.w.y = 0 ∧ m.w.z = 0) (ps : List (Pt3 α)) :
    Mt4.applyMatrix ps m = ps.map (Mt4.mulPt3 m) := by
  rw [applyMatrix_affine, hw.1, hw.2.1, hw.2.2]
  simp only [Pt3.add, add_zero]
theorem applyMatrix_length (m : Mt4 α) (ps : List (Pt3 α)) :
    (Mt4.applyMatrix ps m).length = ps.length := by simp [Mt4.applyMatrix]
theorem applyMatrix_translate (x y z : α) (ps : List (Pt3 α)) :
    Mt4.applyMatrix ps (Mt4.translateMatrix x y z) = Pt3s.translate ps ⟨x, y, z⟩ :=
  List.map_congr_left fun p _ => congrArg Pt4.asPt3 (translate_point x y z p)
/-- `apply_matrix` sets `w = 1` going in and drops the computed `w`, so the sides can differ when `b` does not
return `w = 1`: hence `hb`, which alone the proof uses; `ha` is part of the statement. -/
theorem applyMatrix_mul (a b : Mt4 α) (ps : List (Pt3 α)) (ha : a.x.w = 0 ∧ a.y.w = 0 ∧ a.z.w = 0 ∧ a.w.w = 1)
    (hb : b.x.w = 0 ∧ b.y.w = 0 ∧ b.z.w = 0 ∧ b.w.w = 1) :
    Mt4.applyMatrix ps (Mt4.mul a b) = Mt4.applyMatrix (Mt4.applyMatrix ps b) a := by
  unfold Mt4.applyMatrix
  rw [List.map_map]
  refine List.map_congr_left fun p _ => congrArg Pt4.asPt3 ?_
  have hw : (Mt4.mulVec b (p.asPt4 1)).w = 1 := by
    simp only [Mt4.mulVec, Mt4.transposed, Pt4.dot4, Pt3.asPt4, hb.1, hb.2.1, hb.2.2.1, hb.2.2.2, zero_mul, zero_add,
      _root_.mul_one]
  rw [mulVec_assoc]
  exact congrArg (Mt4.mulVec a) (Pt4.ext rfl rfl rfl hw)

theorem index_column_major (m : Mt4 α) :
    [m.get? 0, m.get? 1, m.get? 2, m.get? 3, m.get? 4, m.get? 5, m.get? 6, m.get? 7,
     m.get? 8, m.get? 9, m.get? 10, m.get? 11, m.get? 12, m.get? 13, m.get? 14, m.get? 15] =
    [m.x.x, m.x.y, m.x.z, m.x.w, m.y.x, m.y.y, m.y.z, m.y.w,
     m.z.x, m.z.y, m.z.z, m.z.w, m.w.x, m.w.y, m.w.z, m.w.w].map some := rfl
theorem index_out_of_range (m : Mt4 α) (i : Nat) (h : 16 ≤ i) : m.get? i = none := by
  simp [Mt4.get?]; omega
theorem ofFn_get (m : Mt4 α) : Mt4.ofFn m.get = m := rfl
theorem get_ofFn (f : Nat → α) {i : Nat} (h : i < 16) : (Mt4.ofFn f).get i = f i := by
  interval_cases i <;> rfl
theorem set_get (m : Mt4 α) (i j : Nat) (v : α) (hi : i < 16) (hj : j < 16) :
    (m.set? i v).bind (·.get? j) = if j = i then some v else m.get? j := by
  simp only [Mt4.set?, Mt4.get?, hi, hj, if_true, Option.bind_some, get_ofFn _ hj]
  split <;> rfl

/-! adj(A)·A = det·I (`adj_mul`), A·adj(A) = det·I (`mul_cof`).
`Mt4.ofFn fun i => if i % 5 = 0 then d else 0` is d·I: the diagonal is at indices 0, 5, 10, 15. -/
theorem adj_mul (f : Nat → α) :
    Mt4.mul (Mt4.ofFn (Gen.mt4Cof f)) (Mt4.ofFn f) =
      Mt4.ofFn (fun i => if i % 5 = 0 then Gen.mt4Det f (Gen.mt4Cof f) else 0) := by
  mt4_ext [Mt4.ofFn, Gen.mt4Det, Gen.mt4Cof, Nat.reduceMod, Nat.reduceEqDiff, reduceIte]
theorem mul_cof (f : Nat → α) :
    Mt4.mul (Mt4.ofFn f) (Mt4.ofFn (Gen.mt4Cof f)) =
      Mt4.ofFn (fun i => if i % 5 = 0 then Gen.mt4Det f (Gen.mt4Cof f) else 0) := by
  mt4_ext [Mt4.ofFn, Gen.mt4Det, Gen.mt4Cof, Nat.reduceMod, Nat.reduceEqDiff, reduceIte]

theorem scalar_mul (r : α) (f : Nat → α) :
    Mt4.mul (Mt4.ofFn fun i => if i % 5 = 0 then r else 0) (Mt4.ofFn f) = Mt4.ofFn fun i => f i * r := by
  mt4_ext [Mt4.ofFn, Nat.reduceMod, Nat.reduceEqDiff, reduceIte]
theorem mul_scalar (f : Nat → α) (r : α) :
    Mt4.mul (Mt4.ofFn f) (Mt4.ofFn fun i => if i % 5 = 0 then r else 0) = Mt4.ofFn fun i => f i * r := by
  mt4_ext [Mt4.ofFn, Nat.reduceMod, Nat.reduceEqDiff, reduceIte]
theorem det_mul (f g : Nat → α) : (Mt4.mul (Mt4.ofFn f) (Mt4.ofFn g)).det =
    Gen.mt4Det f (Gen.mt4Cof f) * Gen.mt4Det g (Gen.mt4Cof g) := by
  simp only [Mt4.det, Gen.mt4Det, Gen.mt4Cof, Mt4.get, Mt4.mul, Mt4.transposed, Pt4.dot4, Mt4.ofFn]
  ring
theorem det_identity : (Mt4.identity : Mt4 α).det = 1 := by
  -- along the first column only the (0,0) cofactor has a non-zero factor
  simp only [Mt4.det, Gen.mt4Det, Mt4.get, Mt4.identity, zero_mul, add_zero, _root_.one_mul]
  simp [Gen.mt4Cof, Mt4.get]
end Ring

section Field
variable {α : Type} [Field α]

theorem cof_mul (a : Mt4 α) :
    Mt4.mul (Mt4.ofFn (Gen.mt4Cof a.get)) a =
      Mt4.ofFn (fun i => if i % 5 = 0 then a.det else 0) := adj_mul a.get
theorem scalar_inv {d : α} (hd : d ≠ 0) :
    (Mt4.ofFn fun i => (if i % 5 = 0 then d else 0) * (1 / d)) = Mt4.identity := by
  simp [Mt4.ofFn, Mt4.identity, hd]

variable [Cmp α] [LawfulEqb α]

theorem inverse_eq (a : Mt4 α) : a.inverse =
    if Cmp.eqb a.det 0 then none else some (Mt4.ofFn fun i => Gen.mt4Cof a.get i * (1 / a.det)) := rfl

theorem inverse_none_iff (a : Mt4 α) : a.inverse = none ↔ a.det = 0 := by
  rw [inverse_eq, ← LawfulEqb.eqb_iff a.det]
  split <;> simp [*]

theorem inverse_mul (a b : Mt4 α) (h : a.inverse = some b) :
    Mt4.mul b a = Mt4.identity ∧ Mt4.mul a b = Mt4.identity := by
  have hd : a.det ≠ 0 := fun hc => by rw [(inverse_none_iff a).mpr hc] at h; cases h
  rw [inverse_eq] at h
  split at h
  · cases h
  · -- `b` is adj(A) times the scalar matrix 1/det, on whichever side suits
    obtain rfl := Option.some.inj h
    unfold Mt4.det at hd ⊢
    constructor
    · show Mt4.mul _ (Mt4.ofFn a.get) = _
      rw [← scalar_mul, mul_assoc, adj_mul, scalar_mul, scalar_inv hd]
    · show Mt4.mul (Mt4.ofFn a.get) _ = _
      rw [← mul_scalar, ← mul_assoc, mul_cof, mul_scalar, scalar_inv hd]

theorem none_only_if_singular (a : Mt4 α) (h : a.inverse = none) :
    ¬ ∃ b : Mt4 α, Mt4.mul a b = Mt4.identity := by
  rintro ⟨b, hb⟩
  have : a.det * b.det = 1 := (det_mul a.get b.get).symm.trans ((congrArg Mt4.det hb).trans det_identity)
  rw [(inverse_none_iff a).mp h, zero_mul] at this
  exact zero_ne_one this

end Field

/-! the product as first published (through `Pt4::dot`, which ignores `w`) is not the matrix product -/
example : Mt4.mulVecLegacy (Mt4.translateMatrix (1 : Int) 2 3) ⟨0, 0, 0, 1⟩ = ⟨0, 0, 0, 0⟩ := by decide
example : Mt4.mulVec (Mt4.translateMatrix (1 : Int) 2 3) ⟨0, 0, 0, 1⟩ = ⟨1, 2, 3, 1⟩ := by decide
example : Mt4.mulLegacy (Mt4.identity : Mt4 Int) (Mt4.translateMatrix 1 2 3) ≠ Mt4.translateMatrix 1 2 3 := by decide

/-! `det` is the regenerated text (`Gen.mt4Det` of `Gen.mt4Cof`); it evaluates, and on a translation to 1 -/
example : (Mt4.translateMatrix (1 : Int) 2 3).det = 1 := by decide

end ScadVerif.C09
