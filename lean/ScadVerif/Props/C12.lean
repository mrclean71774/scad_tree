/-
C12 — degree-based trig helpers are the trig functions in degrees.

The helpers of Model/Scalar.lean over ℝ, Mathlib's trig functions in the place of libm (DESIGN §3.4).
-/
import ScadVerif.Lemmas.RealInst
namespace ScadVerif.C12
open ScadVerif Real

theorem toDeg_toRad (d : ℝ) : toDeg (toRad d) = d := by
  rw [toRad_real, toDeg_real]; field_simp

theorem dsin_eq (d : ℝ) : dsin d = sin (d * (π / 180)) := congrArg sin (toRad_real d)
theorem dcos_eq (d : ℝ) : dcos d = cos (d * (π / 180)) := congrArg cos (toRad_real d)
theorem dtan_eq (d : ℝ) : dtan d = tan (d * (π / 180)) := congrArg tan (toRad_real d)
theorem dasin_eq (x : ℝ) : dasin x = arcsin x * (180 / π) := toDeg_real _
theorem dacos_eq (x : ℝ) : dacos x = arccos x * (180 / π) := toDeg_real _
theorem datan_eq (x : ℝ) : datan x = arctan x * (180 / π) := toDeg_real _

theorem dasin_dsin {a : ℝ} (h₁ : -90 ≤ a) (h₂ : a ≤ 90) : dasin (dsin a) = a := by
  have hp := pi_pos
  show toDeg (arcsin (sin (toRad a))) = a
  rw [arcsin_sin, toDeg_toRad]
  · rw [toRad_real]; nlinarith
  · rw [toRad_real]; nlinarith

theorem dacos_dcos {a : ℝ} (h₁ : 0 ≤ a) (h₂ : a ≤ 180) : dacos (dcos a) = a := by
  have hp := pi_pos
  show toDeg (arccos (cos (toRad a))) = a
  rw [arccos_cos, toDeg_toRad]
  · rw [toRad_real]; positivity
  · rw [toRad_real]; nlinarith

theorem datan_dtan {a : ℝ} (h₁ : -90 < a) (h₂ : a < 90) : datan (dtan a) = a := by
  have hp := pi_pos
  show toDeg (arctan (tan (toRad a))) = a
  rw [arctan_tan, toDeg_toRad]
  · rw [toRad_real]; nlinarith
  · rw [toRad_real]; nlinarith

theorem dasin_range (x : ℝ) : -90 ≤ dasin x ∧ dasin x ≤ 90 := by
  rw [dasin_eq, mul_div_assoc', le_div_iff₀ pi_pos, div_le_iff₀ pi_pos]
  constructor <;> linarith [neg_pi_div_two_le_arcsin x, arcsin_le_pi_div_two x]

theorem approxEq_iff (a b e : ℝ) : approxEq a b e = true ↔ |a - b| < e := by
  simp [approxEq]

/-- `h₁`, `h₂` of `dasin_dsin` at 30° -/
example : (-90 : ℝ) ≤ 30 ∧ (30 : ℝ) ≤ 90 := by norm_num

/-- The function as first published (`asin` of the argument converted to radians): at 90° it returns
`arcsin(π/180) ≤ π/2 < 90`. -/
theorem dasinLegacy_not_inverse : dasinLegacy (dsin (90 : ℝ)) ≠ 90 := by
  have h : dasinLegacy (dsin (90 : ℝ)) ≤ π / 2 := by
    simp only [dasinLegacy, asin_real]; exact arcsin_le_pi_div_two _
  intro hc; rw [hc] at h; linarith [pi_le_four]

end ScadVerif.C12
