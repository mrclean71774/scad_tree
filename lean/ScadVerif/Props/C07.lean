/-
C07 — 2D profile generators give simple clockwise outlines of the stated size.

Over ℝ, about Model/Dim2.lean (dim2.rs; equal to the transcribed source by Tie/Geom.lean, all `rfl`).  `arc` is
characterised once (`arc_eq`); circle, inscribed and circumscribed polygon and the rounded rectangle's corners are
arcs, so their facts come from one plane rotation (C10).

PARTIAL: simplicity of an outline and the outward orientation of its extrusion are not proved, `circle` excepted:
its corners are in strictly convex position, clockwise (`circle_convex`), whence C04 has every cylinder closed,
oriented and of positive volume.  For the rest the Lean oracle (`simpleB` in Driver/Geo.lean, signed area,
closed-oriented mesh, volume) decides them per case.
-/
import ScadVerif.Props.C10
import ScadVerif.Model.Dim2
import ScadVerif.Spec.Mesh
import ScadVerif.Lemmas.TriLemmas
namespace ScadVerif.C07
open ScadVerif ScadVerif.Dim2 ScadVerif.TriLemmas

theorem chamfer_length {α : Type} [Add α] [OfNat α 0] (s o : α) : (chamfer s o).length = 7 := rfl

/-- what `arc` returns when it does not panic -/
noncomputable def arcPts (start : Pt2 ℝ) (degrees : ℝ) (n : Nat) : List (Pt2 ℝ) :=
  (List.range (if degrees = 360 then n else n + 1)).map fun i : Nat => start.rotated (i * -degrees / n)

theorem arc_eq (start : Pt2 ℝ) (degrees : ℝ) (n : Nat) :
    arc start degrees n = if 360 < degrees then none else some (arcPts start degrees n) := by
  simp [arc, arcPts, Cmp.leb]
theorem arc_some {start : Pt2 ℝ} {degrees : ℝ} {n : Nat} {pts : List (Pt2 ℝ)}
    (h : arc start degrees n = some pts) : pts = arcPts start degrees n := by
  rw [arc_eq] at h; split at h <;> simp_all
theorem circle_eq (r : ℝ) (n : Nat) : circle r n = arc ⟨r, 0⟩ 360 n := by simp [circle]
theorem inscribed_eq_circle (n : Nat) (r : ℝ) : inscribedPolygon n r = circle r n := rfl
theorem circumscribed_eq (n : Nat) (r : ℝ) :
    circumscribedPolygon n r = circle (r / dcos (180 / (n : ℝ))) n := by
  simp [circumscribedPolygon, inscribed_eq_circle]

theorem arc_none_iff (start : Pt2 ℝ) (degrees : ℝ) (n : Nat) : arc start degrees n = none ↔ 360 < degrees := by
  rw [arc_eq]; split <;> simp [*]

/-- the full circle does not repeat its start point -/
theorem arc_length (start : Pt2 ℝ) (degrees : ℝ) (n : Nat) (pts : List (Pt2 ℝ))
    (h : arc start degrees n = some pts) : pts.length = if degrees = 360 then n else n + 1 := by
  simp [arc_some h, arcPts]

/-- **arc points**: clockwise for positive degrees -/
theorem arc_get (start : Pt2 ℝ) (degrees : ℝ) (n : Nat) (pts : List (Pt2 ℝ))
    (h : arc start degrees n = some pts) (i : Nat) (hi : i < pts.length) :
    pts[i] = start.rotated ((i : ℝ) * -degrees / (n : ℝ)) := by
  obtain rfl := arc_some h
  simp only [arcPts, List.getElem_map, List.getElem_range]

theorem rotated_len2 (p : Pt2 ℝ) (a : ℝ) : (p.rotated a).len2 = p.len2 := by
  simp only [Pt2.rotated, Pt2.len2, C10.rotated2_spec]
  exact C10.rot2_dot p p _ _ (cs_unit a)

theorem arc_radius (start : Pt2 ℝ) (degrees : ℝ) (n : Nat) (pts : List (Pt2 ℝ))
    (h : arc start degrees n = some pts) : ∀ p ∈ pts, p.len2 = start.len2 := by
  intro p hp
  obtain ⟨i, hi, rfl⟩ := List.getElem_of_mem hp
  rw [arc_get start degrees n pts h i hi, rotated_len2]

/-- consecutive list positions only: not the pair (last, first) that closes a full circle -/
theorem arc_step (start : Pt2 ℝ) (degrees : ℝ) (n : Nat) (hn : n ≠ 0) (pts : List (Pt2 ℝ))
    (h : arc start degrees n = some pts) (i : Nat) (hi : i + 1 < pts.length) :
    pts[i + 1] = (pts[i]'(by omega)).rotated (-degrees / (n : ℝ)) := by
  rw [arc_get start degrees n pts h (i + 1) hi, arc_get start degrees n pts h i (by omega),
    C10.rot_add_2d]
  congr 1
  push_cast; ring

/-- **circle / inscribed polygon**: `segments` corners on the radius, the first on +X, clockwise -/
theorem circle_spec (r : ℝ) (n : Nat) (pts : List (Pt2 ℝ)) (h : circle r n = some pts) :
    pts.length = n ∧ (∀ p ∈ pts, p.x ^ 2 + p.y ^ 2 = r ^ 2) ∧
      ∀ i (hi : i < pts.length), pts[i] = ⟨r * dcos ((i : ℝ) * -360 / n), r * dsin ((i : ℝ) * -360 / n)⟩ := by
  rw [circle_eq] at h
  refine ⟨by simpa using arc_length _ _ _ _ h, fun p hp => ?_, fun i hi => ?_⟩
  · simpa [Pt2.len2_eq] using arc_radius _ _ _ _ h p hp
  · simp [arc_get _ _ _ _ h i hi, Pt2.rotated, Pt2.rotatedCS]

theorem circumscribed_corners (n : Nat) (r : ℝ) (pts : List (Pt2 ℝ))
    (h : circumscribedPolygon n r = some pts) :
    pts.length = n ∧ ∀ p ∈ pts, p.x ^ 2 + p.y ^ 2 = (r / dcos (180 / (n : ℝ))) ^ 2 := by
  rw [circumscribed_eq] at h
  exact ⟨(circle_spec _ n pts h).1, (circle_spec _ n pts h).2.1⟩

/-- a chord's line is tangent to the circle through its midpoint -/
theorem chord_midpoint_perp (p q : Pt2 ℝ) (h : p.len2 = q.len2) :
    ((p + q) / (2 : ℝ)).dot (q - p) = 0 := by
  simp only [Pt2.len2, Pt2.dot] at h
  show ((Pt2.sdiv (Pt2.add p q) 2).dot (Pt2.sub q p)) = 0
  simp only [Pt2.sdiv, Pt2.add, Pt2.sub, Pt2.dot]
  linear_combination h / (-2)

theorem midpoint_rotated_len2 (p : Pt2 ℝ) (a : ℝ) :
    ((p + p.rotated (a + a)) / (2 : ℝ)).len2 = p.len2 * dcos a ^ 2 := by
  show (Pt2.sdiv (Pt2.add p (p.rotated (a + a))) 2).len2 = _
  simp only [Pt2.sdiv, Pt2.add, Pt2.rotated, Pt2.rotatedCS, Pt2.len2, Pt2.dot, dcos_add, dsin_add]
  -- the sides differ by |p|²/4 · (c² + s² − 1)²: one factor is the coefficient, the other `cs_unit`
  linear_combination (p.x * p.x + p.y * p.y) / 4 * (dcos a * dcos a + dsin a * dsin a - 1) * cs_unit a

/-- **tangency**: an edge's midpoint is at distance `r` from the origin and the edge is perpendicular
to the radius there.  Not for the closing edge (last, first).  `hc` fails only for `n = 2`. -/
theorem circumscribed_tangent (n : Nat) (hn : n ≠ 0) (r : ℝ) (hc : dcos (180 / (n : ℝ)) ≠ 0) (pts : List (Pt2 ℝ))
    (h : circumscribedPolygon n r = some pts) (i : Nat) (hi : i + 1 < pts.length) :
    let p := pts[i]'(by omega); let q := pts[i + 1]
    ((p + q) / (2 : ℝ)).len2 = r ^ 2 ∧ ((p + q) / (2 : ℝ)).dot (q - p) = 0 := by
  intro p q
  rw [circumscribed_eq, circle_eq] at h
  have hp : p.len2 = _ := arc_radius _ _ _ _ h p (List.getElem_mem _)
  -- −360/n is twice the half angle 180/n of the definition
  have hq : q = p.rotated (-(180 / (n : ℝ)) + -(180 / (n : ℝ))) := by
    rw [show q = _ from arc_step _ _ n hn pts h i hi]; congr 1; ring
  refine ⟨?_, chord_midpoint_perp p q (by rw [hq, rotated_len2])⟩
  rw [hq, midpoint_rotated_len2, hp, dcos_neg]
  simp only [Pt2.len2, Pt2.dot]
  field_simp
  ring

/-- **chamfer**: its seven corners, in order -/
theorem chamfer_points (s o : ℝ) :
    chamfer s o = [⟨0, s + o⟩, ⟨o, s + o⟩, ⟨o, s⟩, ⟨s, o⟩, ⟨s + o, o⟩, ⟨o + s, 0⟩, ⟨0, 0⟩] := rfl
/-- negative signed area: clockwise -/
theorem chamfer_clockwise (s o : ℝ) (hs : 0 < s) (ho : 0 < o) : Spec.area2 (chamfer s o) < 0 := by
  simp only [chamfer, Spec.area2, Spec.area2.go]
  nlinarith [mul_pos hs ho, mul_pos hs hs, mul_pos ho ho]

theorem star_length (n : Nat) (inner outer : ℝ) : (Dim2.star n inner outer).length = 2 * n := by
  rw [Dim2.star, flatMap_length_const _ _ 2 fun _ _ => rfl, List.length_range, Nat.mul_comm]
theorem star_radii (n : Nat) (inner outer : ℝ) :
    ∀ p ∈ Dim2.star n inner outer, p.x ^ 2 + p.y ^ 2 = inner ^ 2 ∨ p.x ^ 2 + p.y ^ 2 = outer ^ 2 := by
  intro p hp
  simp only [Dim2.star, List.mem_flatMap, List.mem_range, List.mem_cons, List.not_mem_nil, or_false] at hp
  have key (t k : ℝ) : (dcos t * k) ^ 2 + (dsin t * k) ^ 2 = k ^ 2 := by
    linear_combination k ^ 2 * cs_unit t
  obtain ⟨i, _, rfl | rfl⟩ := hp
  · exact .inl (key _ _)
  · exact .inr (key _ _)

theorem roundedRect_some {w h r : ℝ} {n : Nat} {c : Bool} {pts : List (Pt2 ℝ)}
    (hp : roundedRect w h r n c = some pts) :
    ∃ all, pts = (if c then Pt2s.translate all ⟨-w / 2, -h / 2⟩ else all) ∧
      all = Pt2s.translate (arcPts ⟨0, r⟩ 90 n) ⟨w - r, h - r⟩ ++ (Pt2s.translate (arcPts ⟨r, 0⟩ 90 n) ⟨w - r, r⟩ ++
        (Pt2s.translate (arcPts ⟨0, -r⟩ 90 n) ⟨r, r⟩ ++ Pt2s.translate (arcPts ⟨-r, 0⟩ 90 n) ⟨r, h - r⟩)) := by
  norm_num [roundedRect, arc_eq] at hp
  exact ⟨_, hp.symm, rfl⟩

/-- **rounded rectangle**: four arcs of `segments + 1` points -/
theorem roundedRect_length (w h r : ℝ) (n : Nat) (c : Bool) (pts : List (Pt2 ℝ))
    (hp : roundedRect w h r n c = some pts) : pts.length = 4 * (n + 1) := by
  obtain ⟨_, rfl, rfl⟩ := roundedRect_some hp
  have hl (s d : Pt2 ℝ) : (Pt2s.translate (arcPts s 90 n) d).length = n + 1 := by
    rw [C11.pt2s_translate_length, arcPts, List.length_map, List.length_range, if_neg (by norm_num)]
  rw [apply_ite List.length, C11.pt2s_translate_length, ite_self]
  simp only [List.length_append, hl]
  omega

theorem abs_le_of_sq (x y r : ℝ) (hr : 0 ≤ r) (h : x * x + y * y = r * r) : -r ≤ x ∧ x ≤ r :=
  abs_le_of_sq_le_sq' (by rw [sq, sq, ← h]; exact le_add_of_nonneg_right (mul_self_nonneg y)) hr

theorem arc_in_square (start c : Pt2 ℝ) (r : ℝ) (hr : 0 ≤ r) (hs : start.x * start.x + start.y * start.y = r * r)
    (deg : ℝ) (n : Nat) :
    ∀ p ∈ Pt2s.translate (arcPts start deg n) c, c.x - r ≤ p.x ∧ p.x ≤ c.x + r ∧ c.y - r ≤ p.y ∧ p.y ≤ c.y + r := by
  intro p hp
  simp only [Pt2s.translate, arcPts, List.mem_map] at hp
  obtain ⟨_, ⟨i, _, rfl⟩, rfl⟩ := hp
  have hl := rotated_len2 start (i * -deg / n)
  simp only [Pt2.len2, Pt2.dot, hs] at hl
  have hx := abs_le_of_sq _ _ r hr hl
  have hy := abs_le_of_sq _ _ r hr ((add_comm _ _).trans hl)
  simp only [Pt2.add]
  exact ⟨by linarith [hx.1], by linarith [hx.2], by linarith [hy.1], by linarith [hy.2]⟩

/-- **the rounded rectangle lies inside its box** (`center = false`) -/
theorem roundedRect_in_box (w h r : ℝ) (n : Nat) (pts : List (Pt2 ℝ)) (hr : 0 < r) (hw : 2 * r ≤ w) (hh : 2 * r ≤ h)
    (hp : roundedRect w h r n false = some pts) : ∀ p ∈ pts, 0 ≤ p.x ∧ p.x ≤ w ∧ 0 ≤ p.y ∧ p.y ≤ h := by
  obtain ⟨_, rfl, rfl⟩ := roundedRect_some hp
  intro p hp
  simp only [List.mem_append] at hp
  have inSq := fun s c hs => arc_in_square s c r hr.le hs 90 n p
  rcases hp with hp | hp | hp | hp <;> have := inSq _ _ (by simp) hp <;> simp only at this <;>
    exact ⟨by linarith, by linarith, by linarith, by linarith⟩

theorem trig_id (x y : ℝ) :
    Real.sin (2 * x) + Real.sin (2 * y) - Real.sin (2 * x + 2 * y) = 4 * Real.sin x * Real.sin y * Real.sin (x + y) := by
  have hx := Real.sin_sq_add_cos_sq x
  have hy := Real.sin_sq_add_cos_sq y
  rw [show 2 * x + 2 * y = 2 * (x + y) by ring, Real.sin_two_mul, Real.sin_two_mul, Real.sin_two_mul,
    Real.sin_add, Real.cos_add]
  linear_combination (-2 * Real.sin x * Real.cos x) * hy + (-2 * Real.sin y * Real.cos y) * hx

/-- twice the signed area of a triangle inscribed in a circle -/
theorem circ_cross3 (r a b c : ℝ) :
    Tri.cross3 (⟨r * Real.cos a, r * Real.sin a⟩ : Pt2 ℝ) ⟨r * Real.cos b, r * Real.sin b⟩ ⟨r * Real.cos c, r * Real.sin c⟩ =
      r ^ 2 * (4 * Real.sin ((b - a) / 2) * Real.sin ((c - b) / 2) * Real.sin ((c - a) / 2)) := by
  have h := trig_id ((b - a) / 2) ((c - b) / 2)
  rw [show 2 * ((b - a) / 2) + 2 * ((c - b) / 2) = c - a by ring, show 2 * ((b - a) / 2) = b - a by ring,
    show 2 * ((c - b) / 2) = c - b by ring, show (b - a) / 2 + (c - b) / 2 = (c - a) / 2 by ring] at h
  rw [← h, Real.sin_sub, Real.sin_sub, Real.sin_sub]
  simp only [Tri.cross3]
  ring

/-- half the clockwise angle from corner `i` to a later corner `j` lies in (−π, 0) -/
theorem sin_half_step (n i j : Nat) (hij : i < j) (hjn : j < i + n) :
    Real.sin ((toRad ((j : ℝ) * -360 / n) - toRad ((i : ℝ) * -360 / n)) / 2) < 0 := by
  have hi : (i : ℝ) < j := Nat.cast_lt.mpr hij
  have hj : (j : ℝ) < i + n := by exact_mod_cast hjn
  have hn : (0 : ℝ) < n := by linarith
  rw [show (toRad ((j : ℝ) * -360 / n) - toRad ((i : ℝ) * -360 / n)) / 2 = -((j - i) / n * Real.pi) by
    rw [toRad_real, toRad_real]; ring, Real.sin_neg, neg_neg_iff_pos]
  exact Real.sin_pos_of_pos_of_lt_pi (mul_pos (div_pos (sub_pos.mpr hi) hn) Real.pi_pos)
    (mul_lt_of_lt_one_left Real.pi_pos ((div_lt_one hn).mpr (by linarith)))

/-- **the corners of `circle` / `inscribed_polygon` are in strictly convex position, clockwise**:
the signed area of a triple in list order is r² times three sines of half-angles in (−π, 0) -/
theorem circle_convex (r : ℝ) (hr : 0 < r) (n : Nat) (pts : List (Pt2 ℝ)) (h : circle r n = some pts) :
    ConvexPos false pts := by
  obtain ⟨hlen, _, hget⟩ := circle_spec r n pts h
  intro i j k hij hjk hk
  rw [List.getD_eq_getElem?_getD, List.getD_eq_getElem?_getD, List.getD_eq_getElem?_getD,
    List.getElem?_eq_getElem (by omega), List.getElem?_eq_getElem (by omega), List.getElem?_eq_getElem hk]
  simp only [Oriented, Bool.false_eq_true, if_false, Option.getD_some, hget, dcos, dsin, cos_real, sin_real,
    circ_cross3]
  have s1 := sin_half_step n i j hij (by omega)
  have s2 := sin_half_step n j k hjk (by omega)
  have s3 := sin_half_step n i k (by omega) (by omega)
  exact mul_neg_of_pos_of_neg (by positivity)
    (mul_neg_of_pos_of_neg (mul_pos_of_neg_of_neg (mul_neg_of_pos_of_neg four_pos s1) s2) s3)

end ScadVerif.C07
