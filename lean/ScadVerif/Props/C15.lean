/-
C15 — pipes have the stated bore, a through hole, and matching solid variants.
The trees are related syntactically (`*_structure`).  `*through` (on `zExtent`, this file's reading of OpenSCAD's
`cylinder`) and `curved_section_centred` do not mention the model: arithmetic on constants retyped by hand — the
lengths and shifts `straight_structure` and `tapered_structure` exhibit, `curvedBody`'s two x-offsets
(Model/Parts.lean) — nothing else links them to it.
-/
import ScadVerif.Lemmas.RealInst
import ScadVerif.Model.Parts
set_option linter.unusedSectionVars false
namespace ScadVerif.C15
open ScadVerif ScadVerif.Parts ScadVerif.Parts.Pipe

/-- unused here, but Model/Parts.lean's section variables put `[HasTrunc α]` on every definition; why
`⌊·⌋₊`: the same instance in Lemmas/ThreadLemmas.lean -/
noncomputable instance : HasTrunc ℝ := ⟨fun x => ⌊x⌋₊⟩

/-- z-extent of OpenSCAD's `cylinder(h, center)` moved by `shift` along Z -/
noncomputable def zExtent (h : ℝ) (center : Bool) (shift : ℝ) : ℝ × ℝ :=
  if center then (shift - h / 2, shift + h / 2) else (shift, shift + h)

theorem boreOk_iff (od wall : ℝ) : boreOk od wall = true ↔ od - wall * 2 > 0 := by
  simp [boreOk, lit]

/-- a straight pipe is the solid pipe minus a coaxial bore of diameter od − 2·wall -/
theorem straight_structure (od wall L : ℝ) (center : Bool) (fn : Nat) (h : od - wall * 2 > 0) :
    ∃ shift : ℝ, straight od wall L center fn = some (difference [straightSolid od L center fn,
      translate ⟨0, 0, shift⟩ [cylinderD (L + 2) (od - wall * 2) (od - wall * 2) center fn]]) ∧
      shift = if center then 0 else -1 := by
  refine ⟨if center then 0 else -1, ?_, rfl⟩
  have hb : boreOk od wall = true := (boreOk_iff od wall).mpr h
  simp [straight, hb, straightSolid, lit]

theorem through (L ε : ℝ) (hε : 0 < ε) (center : Bool) :
    (zExtent (L + 2 * ε) center (if center then 0 else -ε)).1 < (zExtent L center 0).1 ∧
    (zExtent L center 0).2 < (zExtent (L + 2 * ε) center (if center then 0 else -ε)).2 := by
  cases center <;> simp only [zExtent, Bool.false_eq_true, if_false, if_true] <;> constructor <;> linarith

theorem straight_through (L : ℝ) (center : Bool) :
    let shift : ℝ := if center then 0 else -1
    (zExtent (L + 2) center shift).1 < (zExtent L center 0).1 ∧
    (zExtent L center 0).2 < (zExtent (L + 2) center shift).2 := by
  have h := through L 1 one_pos center
  rwa [mul_one] at h

theorem tapered_structure (od1 od2 wall L : ℝ) (center : Bool) (fn : Nat)
    (h1 : od1 - wall * 2 > 0) (h2 : od2 - wall * 2 > 0) :
    ∃ shift : ℝ, tapered od1 od2 wall L center fn = some (difference [taperedSolid od1 od2 L center fn,
      translate ⟨0, 0, shift⟩ [cylinderD (L + 2 / 1000) (od1 - wall * 2) (od2 - wall * 2) center fn]]) ∧
      shift = if center then 0 else -(1 / 1000) := by
  refine ⟨if center then 0 else -(1 / 1000), ?_, rfl⟩
  have hb1 : boreOk od1 wall = true := (boreOk_iff od1 wall).mpr h1
  have hb2 : boreOk od2 wall = true := (boreOk_iff od2 wall).mpr h2
  simp [tapered, hb1, hb2, taperedSolid, lit]

theorem tapered_through (L : ℝ) (center : Bool) :
    let shift : ℝ := if center then 0 else -(1 / 1000)
    (zExtent (L + 2 / 1000) center shift).1 < (zExtent L center 0).1 ∧
    (zExtent L center 0).2 < (zExtent (L + 2 / 1000) center shift).2 := by
  have h := through L (1 / 1000) (by norm_num) center
  rwa [show (2 : ℝ) * (1 / 1000) = 2 / 1000 by norm_num] at h

/-- `cylinderD` halves each diameter (OpenSCAD's `cylinder` takes radii) -/
theorem bore_diameter (h d1 d2 : ℝ) (center : Bool) (fn : Nat) :
    cylinderD h d1 d2 center fn = Scad.node (.cylinder h (d1 / 2) (d2 / 2) center none none (some fn)) [] := by
  simp [cylinderD, lit]

/-- hollow and solid are the same `curvedBody` around their section.  The section starts centred:
`curvedBody`'s two translations are along x, which the `rotate([90,0,0])` between them fixes; their offsets
cancel (`curved_section_centred`) -/
theorem curved_structure (od wall deg radius : ℝ) (fn : Nat) (h : od - wall * 2 > 0) (hd : 0 < deg ∧ deg ≤ 360) :
    curved od wall deg radius fn =
      some (curvedBody od deg radius fn (difference [circleD od fn, circleD (od - wall * 2) fn])) ∧
    curvedSolid od deg radius fn = some (curvedBody od deg radius fn (circleD od fn)) := by
  have hb : boreOk od wall = true := (boreOk_iff od wall).mpr h
  have hdeg : degreesOk deg = true := by simp [degreesOk, lit, hd.1, hd.2]
  simp [curved, curvedSolid, hb, hdeg]
theorem curved_section_centred (od radius : ℝ) :
    (-od / 2 - radius) + (od / 2 + radius) = 0 := by ring

/-- `straight`'s assertion: a non-positive bore panics -/
theorem straight_rejects (od wall L : ℝ) (center : Bool) (fn : Nat) (h : ¬ od - wall * 2 > 0) :
    straight od wall L center fn = none := by
  have hb : boreOk od wall = false := by
    rw [Bool.eq_false_iff]; intro hc; exact h ((boreOk_iff od wall).mp hc)
  simp [straight, hb]

/-- the bore hypothesis is satisfiable -/
example : (10 : ℝ) - 1 * 2 > 0 := by norm_num

end ScadVerif.C15
