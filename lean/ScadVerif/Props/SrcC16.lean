/-
The lookup theorem of C16 restated about the *transcribed source* (`Tie/ThreadLookup.lean`).
-/
import ScadVerif.Props.C16
import ScadVerif.Tie.ThreadLookup
namespace ScadVerif.SrcC16
open ScadVerif ScadVerif.Thread

/-- for every `i32` the transcribed `m_table_lookup` returns the row of the largest listed size not above the
requested one (sizes below 2 count as 2): the walk never exhausts its bound, the final indexing never misses -/
theorem m_table_lookup_spec (m : Int) :
    ∃ r, Src.metric_thread.m_table_lookup m = some r ∧ r.key ≤ C16.effective m ∧ findRow r.key = some r ∧
      ∀ k, r.key < k → k ≤ C16.effective m → findRow k = none := by
  rw [TieThreadLookup.m_table_lookup]
  exact C16.lookup_spec m

end ScadVerif.SrcC16
