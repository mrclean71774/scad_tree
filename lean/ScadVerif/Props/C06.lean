/-
C06 — every macro form builds the node its OpenSCAD spelling denotes, once.

Gen/MacroArms.lean is regenerated from scad.rs on every run, so `all_arms_ok` is checked against the current source.
"Once" is `Arm.usesOnce`: every metavariable occurs exactly once among the evaluated expressions (a count, not an
order).
-/
import ScadVerif.Gen.MacroArms
import ScadVerif.Spec.MacroMeaning
namespace ScadVerif.C06
open ScadVerif ScadVerif.Macro ScadVerif.Spec.MacroMeaning

theorem arm_count : Gen.arms.length = 136 ∧ Gen.scadFileArms.length = 5 := by decide +kernel

/-- every arm evaluates every argument expression exactly once and means its OpenSCAD call -/
theorem all_arms_ok : ∀ a ∈ Gen.arms, ArmOK a = true := by decide +kernel

/-- every arm builds, field by field, what the same-looking OpenSCAD call means (a diameter stored as half, a single
size applied to every axis, omitted parameters at OpenSCAD's defaults), and its matcher names and orders the slots as
OpenSCAD does.  That `hasChildren` agrees with the matcher's `.children` is checked by `ArmOK` (`all_arms_ok`) only. -/
theorem all_arms_mean_their_openscad_call : ∀ a ∈ Gen.arms, ArmMeaningOK a = true := fun a ha => by
  have h := all_arms_ok a ha
  simp only [ArmOK, Bool.and_eq_true] at h
  simp only [ArmMeaningOK, Bool.and_eq_true]
  exact ⟨h.1.1.2, h.1.2⟩

/-- the `scad_file!` arms write the settings their form names, `$fa` before `$fs` -/
theorem scad_file_settings :
    Gen.scadFileArms.map (·.2) = [[c!"fa", c!"fs"], [c!"fn"], [c!"fs"], [c!"fa"], []] := by decide +kernel

/-- that `impl Add` / `impl Sub` of scad.rs build these nodes: `TieScadFns.add` / `TieScadFns.sub` -/
theorem add_is_union {ν : Type} (a b : Scad ν) : Scad.add a b = Scad.node .union [a, b] := rfl
theorem sub_is_difference {ν : Type} (a b : Scad ν) : Scad.sub a b = Scad.node .difference [a, b] := rfl

end ScadVerif.C06
