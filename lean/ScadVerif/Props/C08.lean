/-
C08 — Bézier curves and chains are the exact curves, joined smoothly.

About Model/Dim2.lean (samplers and chain builder of dim2.rs) and the samplers of Model/Dim3.lean.  Single
curves: coordinate identities over a field, closed by `pt_ext`; convex hull over ℝ; in 3D only lengths, end
points, agreement with 2D on planar input.  Chains are `Dim2.Chain` throughout (`Dim3.Chain`: ties in
Tie/Chain.lean, no theorem here): for every history `new → add*` (`Built`), and after its `close` (`close_spec`,
`close_joined`), consecutive curves are `Joined` (`normalized` never unfolded) and the sampled chain passes
through every knot in order.

Trap: every theorem takes all its section's instance variables (`[Trig α]`, `[CharZero α]`, `[HasSqrt α]`),
used or not (`linter.unusedSectionVars` is off); at a field lacking one, supply any.
-/
import ScadVerif.Props.C11
import ScadVerif.Model.Dim3
set_option linter.unusedSectionVars false
namespace ScadVerif.C08
open ScadVerif ScadVerif.Dim2

/-- `mt4_ext` (Lemmas/PtReal.lean) for points -/
local macro "pt_ext" "[" defs:Lean.Parser.Tactic.simpLemma,* "]" : tactic => `(tactic|
  (simp only [C11.pt2_add, C11.pt2_sub, C11.pt2_smul, C11.pt3_add, C11.pt3_smul, cast_eq_natCast, Nat.cast_ofNat,
     $defs,*]
   ext <;> dsimp only <;> ring))

section Ext
variable {α : Type} [Field α]
theorem add_x (a b : Pt2 α) : (a + b).x = a.x + b.x := rfl
theorem add_y (a b : Pt2 α) : (a + b).y = a.y + b.y := rfl
theorem sub_x (a b : Pt2 α) : (a - b).x = a.x - b.x := rfl
theorem sub_y (a b : Pt2 α) : (a - b).y = a.y - b.y := rfl
theorem smul_x (a : Pt2 α) (k : α) : (a * k).x = a.x * k := rfl
theorem smul_y (a : Pt2 α) (k : α) : (a * k).y = a.y * k := rfl
theorem add3_x (a b : Pt3 α) : (a + b).x = a.x + b.x := rfl
theorem add3_y (a b : Pt3 α) : (a + b).y = a.y + b.y := rfl
theorem add3_z (a b : Pt3 α) : (a + b).z = a.z + b.z := rfl
theorem smul3_x (a : Pt3 α) (k : α) : (a * k).x = a.x * k := rfl
theorem smul3_y (a : Pt3 α) (k : α) : (a * k).y = a.y * k := rfl
theorem smul3_z (a : Pt3 α) (k : α) : (a * k).z = a.z * k := rfl

end Ext

section Field
variable {α : Type} [Field α] [CharZero α] [Trig α]

theorem quadratic_length (s c e : Pt2 α) (n : Nat) : (quadraticBezier s c e n).length = n + 1 := by
  simp [quadraticBezier]
theorem cubic_length (s c1 c2 e : Pt2 α) (n : Nat) : (cubicBezier s c1 c2 e n).length = n + 1 := by
  simp [cubicBezier]
theorem quadratic3_length (s c e : Pt3 α) (n : Nat) : (Dim3.quadraticBezier s c e n).length = n + 1 := by
  simp [Dim3.quadraticBezier]
theorem cubic3_length (s c1 c2 e : Pt3 α) (n : Nat) : (Dim3.cubicBezier s c1 c2 e n).length = n + 1 := by
  simp [Dim3.cubicBezier]

theorem param_eq (i n : Nat) : (param i n : α) = (i : α) / (n : α) := by simp [param]
theorem param_zero (n : Nat) : (param 0 n : α) = 0 := by simp [param]
theorem param_last (n : Nat) (hn : n ≠ 0) : (param n n : α) = 1 := by
  simp [param, Nat.cast_ne_zero.mpr hn]

theorem quadratic_get (s c e : Pt2 α) (n i : Nat) (h : i ≤ n) :
    (quadraticBezier s c e n)[i]? = some (quadPoint s c e ((i : α) / (n : α))) := by
  rw [quadraticBezier, List.getElem?_map, List.getElem?_range (by omega), Option.map_some, param_eq]
theorem cubic_get (s c1 c2 e : Pt2 α) (n i : Nat) (h : i ≤ n) :
    (cubicBezier s c1 c2 e n)[i]? = some (cubicPoint s c1 c2 e ((i : α) / (n : α))) := by
  rw [cubicBezier, List.getElem?_map, List.getElem?_range (by omega), Option.map_some, param_eq]

theorem quadPoint_zero (s c e : Pt2 α) : quadPoint s c e 0 = s := by
  pt_ext [quadPoint]
theorem quadPoint_one (s c e : Pt2 α) : quadPoint s c e 1 = e := by
  pt_ext [quadPoint]
theorem cubicPoint_zero (s c1 c2 e : Pt2 α) : cubicPoint s c1 c2 e 0 = s := by
  pt_ext [cubicPoint]
theorem cubicPoint_one (s c1 c2 e : Pt2 α) : cubicPoint s c1 c2 e 1 = e := by
  pt_ext [cubicPoint]

theorem quadratic_first (s c e : Pt2 α) (n : Nat) : (quadraticBezier s c e n)[0]? = some s := by
  rw [quadratic_get s c e n 0 (Nat.zero_le _)]; simp [quadPoint_zero]
theorem quadratic_last (s c e : Pt2 α) (n : Nat) (hn : n ≠ 0) : (quadraticBezier s c e n)[n]? = some e := by
  rw [quadratic_get s c e n n (Nat.le_refl _), div_self (Nat.cast_ne_zero.mpr hn), quadPoint_one]
theorem cubic_first (s c1 c2 e : Pt2 α) (n : Nat) : (cubicBezier s c1 c2 e n)[0]? = some s := by
  rw [cubic_get s c1 c2 e n 0 (Nat.zero_le _)]; simp [cubicPoint_zero]
theorem cubic_last (s c1 c2 e : Pt2 α) (n : Nat) (hn : n ≠ 0) : (cubicBezier s c1 c2 e n)[n]? = some e := by
  rw [cubic_get s c1 c2 e n n (Nat.le_refl _), div_self (Nat.cast_ne_zero.mpr hn), cubicPoint_one]

def mix (a b : Pt2 α) (t : α) : Pt2 α := a * (1 - t) + b * t

/-- **Bernstein form = de Casteljau's construction** -/
theorem quad_deCasteljau (s c e : Pt2 α) (t : α) :
    quadPoint s c e t = mix (mix s c t) (mix c e t) t := by
  pt_ext [quadPoint, mix]
theorem cubic_deCasteljau (s c1 c2 e : Pt2 α) (t : α) :
    cubicPoint s c1 c2 e t =
      mix (mix (mix s c1 t) (mix c1 c2 t) t) (mix (mix c1 c2 t) (mix c2 e t) t) t := by
  pt_ext [cubicPoint, mix]

/-- **2D and 3D agree on planar input** -/
theorem quad_planar (s c e : Pt2 α) (z t : α) :
    Dim3.quadPoint (s.asPt3 z) (c.asPt3 z) (e.asPt3 z) t = (quadPoint s c e t).asPt3 z := by
  pt_ext [Dim3.quadPoint, quadPoint, Pt2.asPt3]
theorem cubic_planar (s c1 c2 e : Pt2 α) (z t : α) :
    Dim3.cubicPoint (s.asPt3 z) (c1.asPt3 z) (c2.asPt3 z) (e.asPt3 z) t =
      (cubicPoint s c1 c2 e t).asPt3 z := by
  pt_ext [Dim3.cubicPoint, cubicPoint, Pt2.asPt3]
theorem cubicBezier_planar (s c1 c2 e : Pt2 α) (z : α) (n : Nat) :
    Dim3.cubicBezier (s.asPt3 z) (c1.asPt3 z) (c2.asPt3 z) (e.asPt3 z) n =
      (cubicBezier s c1 c2 e n).map (·.asPt3 z) := by
  simp [Dim3.cubicBezier, cubicBezier, cubic_planar, Function.comp_def]
theorem quadraticBezier_planar (s c e : Pt2 α) (z : α) (n : Nat) :
    Dim3.quadraticBezier (s.asPt3 z) (c.asPt3 z) (e.asPt3 z) n =
      (quadraticBezier s c e n).map (·.asPt3 z) := by
  simp [Dim3.quadraticBezier, quadraticBezier, quad_planar, Function.comp_def]

theorem cubic3_zero (s c1 c2 e : Pt3 α) : Dim3.cubicPoint s c1 c2 e 0 = s := by
  pt_ext [Dim3.cubicPoint]
theorem cubic3_one (s c1 c2 e : Pt3 α) : Dim3.cubicPoint s c1 c2 e 1 = e := by
  pt_ext [Dim3.cubicPoint]
theorem quad3_zero (s c e : Pt3 α) : Dim3.quadPoint s c e 0 = s := by
  pt_ext [Dim3.quadPoint]
theorem quad3_one (s c e : Pt3 α) : Dim3.quadPoint s c e 1 = e := by
  pt_ext [Dim3.quadPoint]

end Field

section Hull
/-- convex hull: the Bernstein weights are ≥ 0 on [0,1] and sum to one -/
theorem cubic_hull (s c1 c2 e : Pt2 ℝ) (t : ℝ) (h0 : 0 ≤ t) (h1 : t ≤ 1) :
    ∃ w0 w1 w2 w3 : ℝ, 0 ≤ w0 ∧ 0 ≤ w1 ∧ 0 ≤ w2 ∧ 0 ≤ w3 ∧ w0 + w1 + w2 + w3 = 1 ∧
      cubicPoint s c1 c2 e t = s * w0 + c1 * w1 + c2 * w2 + e * w3 := by
  have h2 : 0 ≤ 1 - t := by linarith
  refine ⟨(1 - t) * (1 - t) * (1 - t), 3 * t * (1 - t) * (1 - t), 3 * t * t * (1 - t), t * t * t,
    by positivity, by positivity, by positivity, by positivity, by ring, ?_⟩
  pt_ext [cubicPoint]
theorem quad_hull (s c e : Pt2 ℝ) (t : ℝ) (h0 : 0 ≤ t) (h1 : t ≤ 1) :
    ∃ w0 w1 w2 : ℝ, 0 ≤ w0 ∧ 0 ≤ w1 ∧ 0 ≤ w2 ∧ w0 + w1 + w2 = 1 ∧
      quadPoint s c e t = s * w0 + c * w1 + e * w2 := by
  have h2 : 0 ≤ 1 - t := by linarith
  refine ⟨(1 - t) * (1 - t), 2 * t * (1 - t), t * t, by positivity, by positivity, by positivity,
    by ring, ?_⟩
  pt_ext [quadPoint]
/-- so the hull theorems apply to every sample -/
theorem param_unit (i n : Nat) (h : i ≤ n) (hn : n ≠ 0) : 0 ≤ (param i n : ℝ) ∧ (param i n : ℝ) ≤ 1 := by
  rw [param_eq]
  have hn' : (0 : ℝ) < n := by exact_mod_cast Nat.pos_of_ne_zero hn
  constructor
  · positivity
  · rw [div_le_one hn']; exact_mod_cast h
end Hull

section Chains
variable {α : Type} [Field α] [Trig α] [HasSqrt α]

/-- The curves share the knot; the outgoing handle is a multiple `k` of the incoming unit tangent.  `k` is
unconstrained in sign; for a curve appended by `add` it is the handle length passed in (`nextCurve_joined`). -/
def JoinedPair (a b : Cubic α) : Prop :=
  b.start = a.end_ ∧ ∃ k : α, b.control1 - b.start = (a.end_ - a.control2).normalized * k

def Joined : List (Cubic α) → Prop
  | a :: b :: rest => JoinedPair a b ∧ Joined (b :: rest)
  | _ => True

theorem sub_add_cancel_pt (a b : Pt2 α) : a + b - a = b := by
  pt_ext []

theorem nextCurve_joined (last : Cubic α) (len : α) (c2 e : Pt2 α) (n : Nat) :
    JoinedPair last (nextCurve last len c2 e n) :=
  ⟨rfl, len, by simp only [nextCurve]; exact sub_add_cancel_pt _ _⟩

theorem joined_iff : ∀ cs : List (Cubic α), Joined cs ↔ cs.IsChain JoinedPair
  | [] | [_] => by simp [Joined]
  | a :: b :: t => by rw [Joined, joined_iff (b :: t), List.isChain_cons_cons]

theorem joined_append (cs : List (Cubic α)) (last c : Cubic α) (hl : cs.getLast? = some last)
    (hj : Joined cs) (hp : JoinedPair last c) : Joined (cs ++ [c]) := by
  rw [joined_iff] at hj ⊢
  exact List.isChain_append.mpr ⟨hj, List.isChain_singleton c, by simpa [hl] using hp⟩

inductive Built : Chain α → Prop
  | new (s c1 c2 e : Pt2 α) (n : Nat) : Built (Chain.new s c1 c2 e n)
  | add (ch : Chain α) (len : α) (c2 e : Pt2 α) (n : Nat) : Built ch → Built (ch.add len c2 e n)

/-- on a non-empty chain `add` takes its `some` arm -/
theorem add_eq (ch : Chain α) (hne : ch.curves ≠ []) (len : α) (c2 e : Pt2 α) (n : Nat) :
    ch.add len c2 e n = { ch with curves := ch.curves ++ [nextCurve (ch.curves.getLast hne) len c2 e n] } := by
  simp only [Chain.add, List.getLast?_eq_some_getLast hne]

theorem built_nonempty (ch : Chain α) (h : Built ch) : ch.curves ≠ [] := by
  induction h with
  | new => simp [Chain.new]
  | add ch len c2 e n _ ih => rw [add_eq ch ih]; simp

/-- **every joint of every `Built` chain is a `JoinedPair`** -/
theorem built_joined (ch : Chain α) (h : Built ch) : Joined ch.curves := by
  induction h with
  | new => simp [Chain.new, Joined]
  | add ch len c2 e n hb ih =>
    have hne := built_nonempty ch hb
    rw [add_eq ch hne]
    exact joined_append _ _ _ (List.getLast?_eq_some_getLast hne) ih (nextCurve_joined _ len c2 e n)

theorem add_last (ch : Chain α) (h : Built ch) (len : α) (c2 e : Pt2 α) (n : Nat) :
    ((ch.add len c2 e n).curves.getLast?.map (·.end_) = some e) ∧
      (ch.add len c2 e n).curves.length = ch.curves.length + 1 ∧
      (ch.add len c2 e n).curves.take ch.curves.length = ch.curves := by
  rw [add_eq ch (built_nonempty ch h)]
  simp [nextCurve]

theorem built_open (ch : Chain α) (h : Built ch) : ch.closed = false := by
  induction h with
  | new => rfl
  | add ch len c2 e n hb ih => rw [add_eq ch (built_nonempty ch hb)]; exact ih

/-- `close` appends the closing curve and re-aims the first curve's first handle along its tangent -/
theorem close_eq (ch : Chain α) (f last : Cubic α) (rest : List (Cubic α)) (hc : ch.curves = f :: rest)
    (hl : (f :: rest).getLast? = some last) (len : α) (c2 : Pt2 α) (startLen : α) (n : Nat) :
    ch.close len c2 startLen n =
      ⟨{ f with control1 := (nextCurve last len c2 f.start n).end_ +
          ((nextCurve last len c2 f.start n).end_ - (nextCurve last len c2 f.start n).control2).normalized *
            startLen } :: (rest ++ [nextCurve last len c2 f.start n]), true⟩ := by
  have h1 : (f :: (rest ++ [nextCurve last len c2 f.start n])).getLast? =
      some (nextCurve last len c2 f.start n) := by
    rw [← List.cons_append]; exact List.getLast?_concat ..
  simp only [Chain.close, hc, Chain.add, hl, List.cons_append, h1]

/-- the hypotheses of `close_eq` -/
theorem built_first_last (ch : Chain α) (h : Built ch) :
    ∃ f rest last, ch.curves = f :: rest ∧ (f :: rest).getLast? = some last := by
  cases hc : ch.curves with
  | nil => exact absurd hc (built_nonempty ch h)
  | cons f rest => exact ⟨f, rest, _, rfl, List.getLast?_eq_some_getLast (List.cons_ne_nil f rest)⟩

/-- **closing**: the closing curve ends at the first knot; the first handle continues its unit tangent with
length `startLen` -/
theorem close_spec (ch : Chain α) (h : Built ch) (len : α) (c2 : Pt2 α) (startLen : α) (n : Nat) :
    (ch.close len c2 startLen n).closed = true ∧
    (ch.close len c2 startLen n).curves.length = ch.curves.length + 1 ∧
    ∃ first last, (ch.close len c2 startLen n).curves.head? = some first ∧
      (ch.close len c2 startLen n).curves.getLast? = some last ∧
      last.end_ = first.start ∧
      first.control1 - first.start = (last.end_ - last.control2).normalized * startLen := by
  obtain ⟨f, rest, last, hc, hl⟩ := built_first_last ch h
  rw [close_eq ch f last rest hc hl, hc]
  refine ⟨rfl, by simp, _, nextCurve last len c2 f.start n, rfl, ?_, rfl, sub_add_cancel_pt _ _⟩
  rw [← List.cons_append]; exact List.getLast?_concat ..

/-- a joint looks at the earlier curve's end point and second handle only -/
theorem joined_head (a : Cubic α) (c1 : Pt2 α) (l : List (Cubic α)) (h : Joined (a :: l)) :
    Joined ({ a with control1 := c1 } :: l) := by
  cases l with
  | nil => trivial
  | cons b t => exact h

theorem close_joined (ch : Chain α) (h : Built ch) (len : α) (c2 : Pt2 α) (startLen : α) (n : Nat) :
    Joined (ch.close len c2 startLen n).curves := by
  obtain ⟨f, rest, last, hc, hl⟩ := built_first_last ch h
  rw [close_eq ch f last rest hc hl]
  exact joined_head f _ _ (joined_append (f :: rest) last _ hl (hc ▸ built_joined ch h)
    (nextCurve_joined last len c2 f.start n))

/-- `rfl`: the model defines `bezierStar` so.  That both Rust copies of the code are this definition:
Tie/Chain.lean (`bezier_star*`).  `bezierStarChain` is not shown to be the `close` of a `Built` chain: no chain
theorem here is instantiated for the star. -/
theorem bezierStar_eq [CharZero α] (nPoints : Nat) (innerR innerH outerR outerH : α) (segments : Nat) :
    bezierStar nPoints innerR innerH outerR outerH segments =
      (bezierStarChain nPoints innerR innerH outerR outerH segments).map Chain.genPoints := rfl

end Chains

section GenPoints
variable {α : Type} [Field α] [CharZero α] [Trig α] [HasSqrt α]

/-- one step of `gen_points`: the joint is dropped, the next curve repeats it -/
def gstep (acc : List (Pt2 α)) (c : Cubic α) : List (Pt2 α) :=
  acc.dropLast ++ cubicBezier c.start c.control1 c.control2 c.end_ c.segments

def segSum (cs : List (Cubic α)) : Nat := (cs.map (·.segments)).sum

theorem gstep_length (acc : List (Pt2 α)) (c : Cubic α) (h : 1 ≤ acc.length) :
    (gstep acc c).length = acc.length + c.segments := by
  rw [gstep, List.length_append, List.length_dropLast, cubic_length]; omega

theorem gfold_length : ∀ (cs : List (Cubic α)) (acc : List (Pt2 α)), 1 ≤ acc.length →
    (cs.foldl gstep acc).length = acc.length + segSum cs
  | [], acc, _ => by simp [segSum]
  | c :: cs, acc, h => by
    rw [List.foldl_cons, gfold_length cs (gstep acc c) (by rw [gstep_length acc c h]; omega),
      gstep_length acc c h]
    exact Nat.add_assoc ..

theorem genPoints_eq (ch : Chain α) : ch.genPoints =
    if ch.closed then (ch.curves.foldl gstep [⟨0, 0⟩]).dropLast else ch.curves.foldl gstep [⟨0, 0⟩] := rfl

/-- **point count of a chain**: a closed chain does not repeat its first point -/
theorem genPoints_length (ch : Chain α) :
    ch.genPoints.length = if ch.closed then segSum ch.curves else segSum ch.curves + 1 := by
  have h := gfold_length ch.curves [(⟨0, 0⟩ : Pt2 α)] (by simp)
  rw [genPoints_eq]
  split
  · rw [List.length_dropLast, h, List.length_singleton, Nat.add_sub_cancel_left]
  · rw [h, List.length_singleton, Nat.add_comm]

theorem gstep_prefix (acc : List (Pt2 α)) (c : Cubic α) (i : Nat) (hi : i + 1 < acc.length) :
    (gstep acc c)[i]? = acc[i]? := by
  rw [gstep, List.getElem?_append_left (by rw [List.length_dropLast]; omega), List.getElem?_dropLast,
    if_pos (by omega)]

theorem gfold_prefix : ∀ (cs : List (Cubic α)) (acc : List (Pt2 α)) (i : Nat), i + 1 < acc.length →
    (cs.foldl gstep acc)[i]? = acc[i]?
  | [], _, _, _ => rfl
  | c :: cs, acc, i, hi => by
    rw [List.foldl_cons, gfold_prefix cs (gstep acc c) i (by rw [gstep_length acc c (by omega)]; omega),
      gstep_prefix acc c i hi]

theorem gstep_joint (acc : List (Pt2 α)) (c : Cubic α) :
    (gstep acc c)[acc.length - 1]? = some c.start := by
  unfold gstep
  rw [List.getElem?_append_right (by simp)]
  simp only [List.length_dropLast, Nat.sub_self]
  exact cubic_first c.start c.control1 c.control2 c.end_ c.segments

/-- **a chain passes through every knot, in order**, for the fold: the curves before `c` bring the list to length
`acc.length + segSum pre`, `c` puts its start at the last index of that, the curves after `c` leave it there -/
theorem gfold_knot (pre post : List (Cubic α)) (c : Cubic α) (acc : List (Pt2 α)) (h : 1 ≤ acc.length)
    (hc : 1 ≤ c.segments) : ((pre ++ c :: post).foldl gstep acc)[acc.length - 1 + segSum pre]? = some c.start := by
  have hl := gfold_length pre acc h
  rw [List.foldl_append, List.foldl_cons, gfold_prefix post _ _ (by rw [gstep_length _ c (by omega)]; omega),
    show acc.length - 1 + segSum pre = (pre.foldl gstep acc).length - 1 by omega]
  exact gstep_joint _ c

/-- **C08, chains pass through every knot in order** (open or closed).  `hs`: a curve of zero segments contributes
only its start point, which the next curve's `dropLast` removes — two knots would claim one index. -/
theorem genPoints_knots (ch : Chain α) (k : Nat) (c : Cubic α) (hs : ∀ x ∈ ch.curves, 1 ≤ x.segments)
    (hk : ch.curves[k]? = some c) : ch.genPoints[segSum (ch.curves.take k)]? = some c.start := by
  obtain ⟨hi, rfl⟩ := List.getElem?_eq_some_iff.mp hk
  have hc := hs _ (List.getElem_mem hi)
  have hsplit : ch.curves.take k ++ ch.curves[k] :: ch.curves.drop (k + 1) = ch.curves := by
    rw [List.getElem_cons_drop, List.take_append_drop]
  have h := gfold_knot (ch.curves.take k) (ch.curves.drop (k + 1)) ch.curves[k] [⟨0, 0⟩] (by simp) hc
  have hl := gfold_length ch.curves [(⟨0, 0⟩ : Pt2 α)] (by simp)
  have hsum := congrArg segSum hsplit
  simp only [segSum, List.map_append, List.map_cons, List.sum_append, List.sum_cons] at hsum
  simp only [hsplit, List.length_singleton, Nat.sub_self, Nat.zero_add] at h hl
  rw [genPoints_eq]
  split
  · -- the knot survives `dropLast`: curve `k` itself puts a point after it
    rw [List.getElem?_dropLast, if_pos (by rw [hl]; simp only [segSum]; omega)]; exact h
  · exact h

end GenPoints

/-- the first published parameter `i * (1/segments)` misses the end point in floating point; in exact
arithmetic both agree, so only the implementation run could expose it -/
theorem paramLegacy_eq_param {α : Type} [Field α] (i n : Nat) : (paramLegacy i n : α) = param i n := by
  simp [paramLegacy, param, div_eq_mul_inv]

end ScadVerif.C08
