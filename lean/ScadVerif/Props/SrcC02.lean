/-
`C02.emitted_arguments_denote_parameters` about the transcribed source (`Src.Scad.fmt`), for `allPlain` trees.
-/
import ScadVerif.Props.C02
import ScadVerif.Tie.File
namespace ScadVerif.SrcC02
open ScadVerif ScadVerif.Spec ScadVerif.ParserLemmas ScadVerif.DecodeLemmas

variable {ν : Type} [OfNat ν 0] (showNum : ν → List Char) (readNum : List Char → Option ν) (zero : ν)

theorem written_arguments_denote_parameters (hnum : ∀ x, IsNumeral (showNum x) = true)
    (hread : ∀ x, readNum (showNum x) = some x) (ts : List (Scad ν))
    (hwf : ∀ t ∈ ts, C01.WellFormed showNum t) (hg : ∀ t ∈ ts, C02.TreeGood zero t)
    (hp : ∀ t ∈ ts, TieEmit.allPlain t) :
    (parseProgram (ts.flatMap (fun t => Src.Scad.fmt showNum t))).bind
      (fun stmts => stmts.mapM (decodeStmt readNum zero)) = some ts := by
  rw [TieFile.children_eq showNum ts hp]
  exact C02.emitted_arguments_denote_parameters showNum readNum zero hnum hread ts hwf hg

end ScadVerif.SrcC02
