/-
A headline theorem of C04 restated about the *transcribed source*: the model's theorem composed with the
tie (`Tie/Polyhedron.lean`).
-/
import ScadVerif.Props.C04
import ScadVerif.Tie.Polyhedron
namespace ScadVerif.SrcC04
open ScadVerif ScadVerif.Spec

/-- every mesh the transcribed `Polyhedron::cylinder` returns, for radius > 0, is a closed, consistently oriented
surface (the oracle's own predicate) -/
theorem cylinder_closedOriented (r height : ℝ) (hr : 0 < r) (seg : Nat) (p : Dim3.Polyhedron ℝ)
    (h : Src.Polyhedron.cylinder r height seg = some p) : closedOriented p.points.length p.faces = true := by
  rw [TiePoly.cylinder] at h
  exact C04.cylinder_closedOriented r height hr seg p h

end ScadVerif.SrcC04
