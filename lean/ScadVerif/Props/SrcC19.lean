/-
The headline theorem of C19 restated about the *transcribed source* (`Src.*`, regenerated from /repo on every run)
instead of the hand-written model: the model's theorem composed with the ties of `Tie/*.lean`.  If the source
changes, `Gen/Src*.lean` changes and a tie or this theorem stops checking.
-/
import ScadVerif.Props.C19
import ScadVerif.Tie.Rng
namespace ScadVerif.SrcC19
open ScadVerif ScadVerif.Spec

/-- `count` raw outputs drawn with the transcribed `next` -/
def srcOutputs : Nat → Rng.MT → List UInt32
  | 0, _ => []
  | n + 1, mt => (Src.MersenneTwister.next mt).1 :: srcOutputs n (Src.MersenneTwister.next mt).2

theorem srcOutputs_eq : ∀ (n : Nat) (mt : Rng.MT), srcOutputs n mt = Rng.outputs n mt
  | 0, _ => rfl
  | n + 1, mt => (congrArg _ (srcOutputs_eq n _)).trans (TieRng.outputs_eq (n + 1) mt).symm

theorem src_stream_eq_reference (seed : UInt32) (count : Nat) :
    srcOutputs count (Src.MersenneTwister.with_seed seed) = (List.range count).map (Spec.MT.output seed) := by
  rw [srcOutputs_eq, TieRng.with_seed]
  exact C19.stream_eq_reference seed count

end ScadVerif.SrcC19
