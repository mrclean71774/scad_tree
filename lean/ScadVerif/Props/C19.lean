/-
C19 — the random generator is the reference MT19937 stream in documented ranges.
Stream: `stream_eq_reference`, from the refinement in Lemmas/MTRefine.lean.  Ranges: about the expressions the range
maps compute, in exact arithmetic, not about the `Float32` definitions of Model/Rng.lean;
`i32_minmax_range_rounded` adds one IEEE rounding as a relative-error bound.
-/
import Mathlib.Tactic.Linarith
import Mathlib.Tactic.Positivity
import Mathlib.Algebra.Order.Floor.Ring
import Mathlib.Data.Rat.Floor
import ScadVerif.Lemmas.MTRefine
namespace ScadVerif.C19
open ScadVerif ScadVerif.Rng

/-- For every seed and stream position, across any number of in-place regenerations, the output is the reference
MT19937 output, the tempering of x_{k+624}. -/
theorem stream_eq_reference (seed : UInt32) (count : Nat) :
    outputs count (withSeed seed) = (List.range count).map (Spec.MT.output seed) := by
  rw [MTRefine.outputs_good seed count _ 624 (MTRefine.withSeed_good seed)]
  exact List.map_congr_left fun t _ =>
    congrArg (fun k => Spec.MT.temper (Spec.MT.x seed k)) (show 624 + t = t + 624 by omega)

theorem output_eq_reference (seed : UInt32) (k : Nat) :
    (outputs (k + 1) (withSeed seed))[k]? = some (Spec.MT.output seed k) := by
  rw [stream_eq_reference]; simp

theorem reference_recurrence (seed : UInt32) (k : Nat) :
    Spec.MT.x seed (k + 624) = Spec.MT.x seed (k + 397) ^^^ Spec.MT.twist (Spec.MT.x seed k) (Spec.MT.x seed (k + 1)) :=
  MTRefine.x_rec seed k
theorem reference_seeding (seed : UInt32) :
    Spec.MT.x seed 0 = seed ∧ ∀ j, j < 623 → Spec.MT.x seed (j + 1) = 6069 * Spec.MT.x seed j :=
  ⟨MTRefine.x_zero seed, fun j hj => MTRefine.x_seed_succ seed j hj⟩

/-- `Gen.mt*`: regenerated from rng.rs on every run -/
theorem constants_are_mt19937 :
    Gen.mtN = 624 ∧ Gen.mtM = 397 ∧ Gen.mtUpper = 0x80000000 ∧ Gen.mtLower = 0x7fffffff ∧
    Gen.mtMatrixA = 0x9908b0df ∧ Gen.mtSeedMul = 6069 ∧ Gen.mtMaskB = 0x9d2c5680 ∧ Gen.mtMaskC = 0xefc60000 ∧
    Gen.mtShiftU = 11 ∧ Gen.mtShiftS = 7 ∧ Gen.mtShiftT = 15 ∧ Gen.mtShiftL = 18 :=
  MTRefine.consts_match

/-- an instance of reflexivity: that the stream depends on the seed alone is carried by the types of `withSeed` and
`outputs` -/
theorem deterministic (seed : UInt32) (count : Nat) :
    outputs count (withSeed seed) = outputs count (withSeed seed) := rfl

/-- `f32_0_1` is `(u >> 8) / 2²⁴`: a 24-bit integer is exact in f32, as is division by a power of two, so the f32
result *is* this rational (two IEEE facts taken on trust, in the spirit of DESIGN §3.3 but not among its laws) -/
theorem f32_0_1_range (u : UInt32) :
    (0 : ℚ) ≤ ((u >>> 8).toNat : ℚ) / 2 ^ 24 ∧ ((u >>> 8).toNat : ℚ) / 2 ^ 24 < 1 := by
  have h : (u >>> 8).toNat < 2 ^ 24 := by
    rw [UInt32.toNat_shiftRight]
    have := u.toNat_lt
    simp only [UInt32.toNat_ofNat, Nat.reducePow, Nat.reduceMod] at *
    omega
  constructor
  · positivity
  · rw [div_lt_one (by positivity)]
    exact_mod_cast h

/-- `⌊P⌋` for Rust's `as i32`, truncation toward zero: the same for `0 ≤ P` -/
theorem floor_range (min max : ℤ) (P : ℚ) (h0 : 0 ≤ P) (h1 : P < ((max - min : ℤ) : ℚ)) :
    min ≤ min + ⌊P⌋ ∧ min + ⌊P⌋ < max := by
  have hlo : 0 ≤ ⌊P⌋ := Int.floor_nonneg.mpr h0
  have hhi : ⌊P⌋ < max - min := Int.floor_lt.mpr h1
  constructor <;> omega

/-- `i32_minmax` in exact arithmetic (partial: the one f32 rounding of the product is not modelled) -/
theorem i32_minmax_range_partial (min max : ℤ) (v : ℚ) (h : min < max) (h0 : 0 ≤ v) (h1 : v < 1) :
    min ≤ min + ⌊((max - min : ℤ) : ℚ) * v⌋ ∧ min + ⌊((max - min : ℤ) : ℚ) * v⌋ < max := by
  have hs : (0 : ℚ) < ((max - min : ℤ) : ℚ) := by exact_mod_cast (by omega : (0 : ℤ) < max - min)
  exact floor_range min max _ (mul_nonneg hs.le h0) ((mul_lt_mul_of_pos_left h1 hs).trans_eq (mul_one _))

/-- `P ≤ D·v·(1 + ε) ≤ D·(1 − ε)(1 + ε) = D·(1 − ε²) < D` -/
theorem rounded_range {D v ε P : ℚ} (hD : 0 < D) (hv0 : 0 ≤ v) (hε : 0 < ε) (hε1 : ε ≤ 1) (hv1 : v ≤ 1 - ε)
    (h : |P - D * v| ≤ ε * |D * v|) : 0 ≤ P ∧ P < D := by
  have hx : 0 ≤ D * v := mul_nonneg hD.le hv0
  rw [abs_of_nonneg hx, abs_le] at h
  constructor
  · have : 0 ≤ D * v * (1 - ε) := mul_nonneg hx (sub_nonneg.mpr hε1)
    linarith
  · have h1 : D * v * (1 + ε) ≤ D * (1 - ε) * (1 + ε) :=
      mul_le_mul_of_nonneg_right (mul_le_mul_of_nonneg_left hv1 hD.le) (by linarith)
    have h2 : 0 < D * (ε * ε) := mul_pos hD (mul_pos hε hε)
    linarith

/-- `i32_minmax` under the standard model of one IEEE rounding (relative error ≤ 2⁻²⁴ for binary32), for ranges f32
holds exactly (`max − min < 2²⁴`).  The raw fraction `k / 2²⁴` is exact in binary32.  The proof does not use `hsmall`:
it is the condition under which `hround` is the right model, `(max − min) as f32` then being exact and the product
the only rounding. -/
theorem i32_minmax_range_rounded (min max : ℤ) (k : ℕ) (P : ℚ) (hlt : min < max) (hsmall : max - min < 2 ^ 24)
    (hk : k < 2 ^ 24)
    (hround : |P - ((max - min : ℤ) : ℚ) * ((k : ℚ) / 2 ^ 24)| ≤
      (1 / 2 ^ 24) * |((max - min : ℤ) : ℚ) * ((k : ℚ) / 2 ^ 24)|) :
    min ≤ min + ⌊P⌋ ∧ min + ⌊P⌋ < max := by
  have hD : (0 : ℚ) < ((max - min : ℤ) : ℚ) := by exact_mod_cast (by omega : (0 : ℤ) < max - min)
  have hv1 : (k : ℚ) / 2 ^ 24 ≤ 1 - 1 / 2 ^ 24 := by
    rw [div_le_iff₀ (by positivity)]
    have : (k : ℚ) + 1 ≤ 2 ^ 24 := by exact_mod_cast hk
    norm_num at this ⊢; linarith
  obtain ⟨h0, h1⟩ := rounded_range hD (by positivity) (by positivity) (by norm_num) hv1 hround
  exact floor_range min max P h0 h1

/-- `f32_minmax` / `f64_minmax` in exact arithmetic.  `≤ max` where the source documents `[min..max)`: in f32 the sum
can round up to `max` (`Rng.f32Minmax 0xffffffff 1 2 == 2` is `true`). -/
theorem fminmax_range {α : Type} [Field α] [LinearOrder α] [IsStrictOrderedRing α]
    (min max v : α) (h : min < max) (h0 : 0 ≤ v) (h1 : v < 1) :
    min ≤ min + (max - min) * v ∧ min + (max - min) * v ≤ max := by
  have hs : 0 < max - min := by linarith
  constructor
  · have := mul_nonneg hs.le h0; linarith
  · have : (max - min) * v ≤ (max - min) * 1 := mul_le_mul_of_nonneg_left h1.le hs.le
    linarith

/-- the hypotheses of `i32_minmax_range_partial` are satisfiable -/
example : (2 : ℤ) < 5 ∧ (0 : ℚ) ≤ 1 / 2 ∧ (1 / 2 : ℚ) < 1 := by norm_num

end ScadVerif.C19
