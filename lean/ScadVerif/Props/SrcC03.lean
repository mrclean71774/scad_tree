/-
Two theorems of C03 about the *transcribed source* (`Src.*`, regenerated from /repo on every run), not the
hand-written model: the model's theorem composed with the ties of Tie/Tri.lean and Tie/TriLoop.lean.  When the source
changes, `Gen/SrcTriangulate.lean` changes and a tie or one of these stops checking.
-/
import ScadVerif.Props.C03
import ScadVerif.Tie.Tri
import ScadVerif.Tie.TriLoop
namespace ScadVerif.SrcC03
open ScadVerif ScadVerif.Spec ScadVerif.TriLemmas

/-- **C03 on convex polygons — total**, of the source -/
theorem triangulate2d_convex (ccw : Bool) (vs : List (Pt2 ℝ)) (hn : 3 < vs.length) (hc : ConvexPos ccw vs) :
    (∃ out, Src.triangulate.triangulate2d vs = some out ∧ out.length = 3 * (vs.length - 2)) ∧
    (∃ out, Src.triangulate.triangulate2d_rev vs = some out ∧ out.length = 3 * (vs.length - 2)) := by
  rw [TieTri.triangulate2d, TieTri.triangulate2d_rev]
  exact C03.convex_complete ccw vs hn hc

/-- **C03, count**, of the source's private loop -/
theorem triangulate_loop_length_le (poly : Tri.Poly ℝ) (h : 2 ≤ poly.length) :
    ∃ out, Src.triangulate.triangulate poly = some out ∧ out.length ≤ 3 * (poly.length - 2) := by
  refine ⟨Tri.triangulate poly, ?_, C03.triangulate_length_le poly h⟩
  rw [TieTriLoop.triangulate poly h, TieTri.checked_of_length poly h]

end ScadVerif.SrcC03
