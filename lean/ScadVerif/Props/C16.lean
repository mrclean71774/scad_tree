/-
C16 — metric threads: sizes come from the table, the minor diameter follows the ISO proportion, a missing size uses
the next smaller listed one, the nut's thread is larger than the bolt's.

`Gen.threadTable` is regenerated from metric_thread.rs on every run; the table facts are `decide +kernel` over it, so
an edited row breaks the proof obligation.  The thread-mesh theorems (proved in Lemmas/ThreadLemmas.lean,
Lemmas/ThreadClosed.lean, restated here) hold whenever the builder `threadMesh` returns a mesh.  The model's
`threadMesh` is `none` on slightly more inputs than the source panics on (Tie/ThreadMesh.lean, header, with an
example); there the crate returns a mesh these theorems say nothing about.

Two halves that no theorem joins.  Table: `Gen.threadTable`, `lookup`, the function `Thread.dMin`; the fit compares
the table's external and internal columns, `Parts.threadedRod` and `Parts.tap` do not occur.  Mesh: `threadMesh` at
arbitrary reals `dMin dMaj pitch` (a binder `dMin`, shadowing the function); `threadMesh_radii`'s `h0 h1` are not
derived from `minor_positive`, `dMin_lt_dMaj` for a table row.
-/
import ScadVerif.Lemmas.ThreadLemmas
import ScadVerif.Lemmas.ThreadClosed
import ScadVerif.Lemmas.ThreadLookup
namespace ScadVerif.C16
open ScadVerif ScadVerif.Thread ScadVerif.ThreadLookup

/-- the size actually looked up.  Must stay textually the argument of `lookupFrom` in `Thread.lookup`: `lookup_spec`
passes `lookupFrom (effective m) = some r` as `lookup m = some r` by unfolding. -/
def effective (m : Int) : Nat := if m < 2 then 2 else m.toNat

/-- **C16, lookup.** For every `m : i32` (indeed every integer) the lookup succeeds, returning the row of the largest
listed size ≤ `max m 2`. -/
theorem lookup_spec (m : Int) :
    ∃ r, lookup m = some r ∧ r.key ≤ effective m ∧ findRow r.key = some r ∧
      ∀ k, r.key < k → k ≤ effective m → findRow k = none := by
  have h2 : 2 ≤ effective m := by unfold effective; split <;> omega
  obtain ⟨r, h⟩ := Option.isSome_iff_exists.mp (lookupFrom_some (effective m) h2)
  exact ⟨r, h, lookupFrom_spec _ r h⟩

theorem lookup_eq (m : Int) (k : Nat) (hk : k ≤ effective m) (hl : (findRow k).isSome = true)
    (ha : ∀ j, k < j → j ≤ effective m → findRow j = none) : lookup m = findRow k := by
  obtain ⟨r, h1, h2, h3, h4⟩ := lookup_spec m
  obtain h | h | h := Nat.lt_trichotomy r.key k
  · rw [h4 k h hk] at hl; exact absurd hl (by decide)
  · rw [h1, ← h3, h]
  · rw [ha r.key h h2] at h3; exact absurd h3 (by simp)

theorem lookup_listed (m : Int) (hm : 2 ≤ m) (r : Gen.ThreadRow) (h : findRow m.toNat = some r) :
    lookup m = some r := by
  have he : effective m = m.toNat := by unfold effective; split <;> omega
  rw [lookup_eq m m.toNat he.ge (by rw [h]; rfl) (fun j h1 h2 => by omega), h]

theorem lookup_below_two (m : Int) (hm : m < 2) : lookup m = findRow 2 := by
  have he : effective m = 2 := by unfold effective; simp [hm]
  exact lookup_eq m 2 he.ge m2_listed (fun j h1 h2 => by omega)

/-- the largest listed size is M100 -/
theorem table_top : (∀ r ∈ Gen.threadTable, r.key ≤ 100) ∧ (findRow 100).isSome = true := by
  decide +kernel

theorem lookup_above_table (m : Int) (hm : 100 ≤ m) : lookup m = findRow 100 := by
  have he : effective m = m.toNat := by unfold effective; split <;> omega
  refine lookup_eq m 100 (by omega) table_top.2 (fun j h1 _ => List.find?_eq_none.mpr fun r hr => ?_)
  have := table_top.1 r hr
  simp only [decide_eq_true_eq]
  omega

/-- keys distinct and sorted: "next smaller listed size" is unambiguous -/
theorem table_sorted : (Gen.threadTable.map (·.key)).Pairwise (· < ·) := by decide +kernel

/-- **C16, minor diameter**: `minor = major − 2·(5/8)·(√3/2)·pitch` -/
theorem dMin_formula (dMaj pitch : ℝ) :
    (dMin dMaj pitch : ℝ) = dMaj - 2 * (5 / 8) * (Real.sqrt 3 / 2) * pitch := by
  simp [dMin, threadHeight]; ring
theorem dMin_lt_dMaj (dMaj pitch : ℝ) (hp : 0 < pitch) : (dMin dMaj pitch : ℝ) < dMaj := by
  rw [dMin_formula]
  have : 0 < 2 * (5 / 8) * (Real.sqrt 3 / 2) * pitch := by positivity
  linarith
theorem dMin_mono (a b pitch : ℝ) (h : a < b) : (dMin a pitch : ℝ) < dMin b pitch := by
  rw [dMin_formula, dMin_formula]; linarith

theorem sqrt3_lt : Real.sqrt 3 < 1.7321 := by
  rw [Real.sqrt_lt' (by norm_num)]; norm_num

/-- the thread does not cut through the core (√3 < 1.7321) -/
theorem dMin_pos (dMaj pitch : ℝ) (hp : 0 ≤ pitch) (h : 5 * 1.7321 * pitch < 8 * dMaj) :
    (0 : ℝ) < dMin dMaj pitch := by
  rw [dMin_formula]
  have := mul_le_mul_of_nonneg_right sqrt3_lt.le hp
  linarith

theorem val_nonneg (d : Gen.Dec) : (0 : ℝ) ≤ Gen.Dec.val d := by
  simp only [Gen.Dec.val, cast_eq_natCast]; positivity

/-- two decimal literals, with integer factors, compared by cross-multiplication -/
theorem val_lt_of_cross (a b : Gen.Dec) (k l : Nat) (h : k * a.num * 10 ^ b.digits < l * b.num * 10 ^ a.digits) :
    (k : ℝ) * Gen.Dec.val a < l * Gen.Dec.val b := by
  simp only [Gen.Dec.val, cast_eq_natCast]
  have ha : (0 : ℝ) < ((10 ^ a.digits : Nat) : ℝ) := by positivity
  have hb : (0 : ℝ) < ((10 ^ b.digits : Nat) : ℝ) := by positivity
  rw [mul_div_assoc', mul_div_assoc', div_lt_div_iff₀ ha hb]
  exact_mod_cast h

theorem rows_internal_larger :
    ∀ r ∈ Gen.threadTable, r.externalDMaj.num * 10 ^ r.internalDMaj.digits <
      r.internalDMaj.num * 10 ^ r.externalDMaj.digits ∧ 0 < r.pitch.num := by
  decide +kernel

/-- **C16, fit.** For every listed size the internal (nut, tap) thread is larger than the external (bolt, rod) one in
major and minor diameter, and the pitch is positive. -/
theorem nut_fits_bolt (r : Gen.ThreadRow) (hr : r ∈ Gen.threadTable) :
    (Gen.Dec.val r.externalDMaj : ℝ) < Gen.Dec.val r.internalDMaj ∧
    (dMin (Gen.Dec.val r.externalDMaj) (Gen.Dec.val r.pitch) : ℝ) <
      dMin (Gen.Dec.val r.internalDMaj) (Gen.Dec.val r.pitch) ∧
    (0 : ℝ) < Gen.Dec.val r.pitch := by
  obtain ⟨h1, h2⟩ := rows_internal_larger r hr
  have hlt : (Gen.Dec.val r.externalDMaj : ℝ) < Gen.Dec.val r.internalDMaj := by
    simpa using val_lt_of_cross _ _ 1 1 (by simpa using h1)
  refine ⟨hlt, dMin_mono _ _ _ hlt, ?_⟩
  simp only [Gen.Dec.val, cast_eq_natCast]
  positivity

theorem nut_fits_bolt_every_size (m : Int) :
    ∃ r, lookup m = some r ∧ (Gen.Dec.val r.externalDMaj : ℝ) < Gen.Dec.val r.internalDMaj := by
  obtain ⟨r, h1, _, h3, _⟩ := lookup_spec m
  exact ⟨r, h1, (nut_fits_bolt r (List.mem_of_find?_eq_some h3)).1⟩

/-- `dMin_pos`'s `h` row by row: no listed external thread cuts through the core -/
theorem rows_core_positive :
    ∀ r ∈ Gen.threadTable,
      5 * 17321 * r.pitch.num * 10 ^ r.externalDMaj.digits <
        8 * 10000 * r.externalDMaj.num * 10 ^ r.pitch.digits := by
  decide +kernel

theorem minor_positive (r : Gen.ThreadRow) (hr : r ∈ Gen.threadTable) :
    (0 : ℝ) < dMin (Gen.Dec.val r.externalDMaj) (Gen.Dec.val r.pitch) := by
  have h := val_lt_of_cross r.pitch r.externalDMaj (5 * 17321) (8 * 10000) (rows_core_positive r hr)
  push_cast at h
  exact dMin_pos _ _ (val_nonneg _) (by linarith)

/-- **C16/C04, thread mesh.** `nSteps` rings of 4 points; `8·nSteps − 4` faces (`threadMesh_faceList`), all triangles
on valid indices; the mesh starts on the minor radius at z = 0. -/
theorem threadMesh_structure (dMin dMaj pitch length : ℝ) (segments : Nat) (li lo : ℝ) (left : Bool)
    (m : Mesh ℝ) (h : threadMesh dMin dMaj pitch length segments li lo left = some m) :
    ∃ nSteps, 2 ≤ nSteps ∧ m.points.length = 4 * nSteps ∧ m.faces.length = 8 * nSteps - 4 ∧
      (∀ f ∈ m.faces, f.length = 3 ∧ ∀ v ∈ f, v < m.points.length) ∧
      m.points[2]? = some ⟨dMin / 2, 0, 0⟩ := by
  obtain ⟨n, hn, sh⟩ := ThreadClosed.threadMesh_shape dMin dMaj pitch length segments li lo left m h
  exact ⟨n, hn, sh.points, sh.faces, fun f hf => ⟨sh.tri f hf, sh.valid f hf⟩, sh.startZ⟩

/-- **C16, radii.** Every vertex of the thread mesh lies between the minor and the major radius: lead-in/lead-out
interpolation stays in `[d_min/2, d_maj/2]`, turning a profile point about the axis keeps its radius. -/
theorem threadMesh_radii (dMin dMaj pitch length : ℝ) (segments : Nat) (li lo : ℝ) (left : Bool) (m : Mesh ℝ)
    (h : threadMesh dMin dMaj pitch length segments li lo left = some m)
    (h0 : 0 ≤ dMin) (h1 : dMin ≤ dMaj) (hli : 0 ≤ li) :
    ∀ p ∈ m.points, (dMin / 2) ^ 2 ≤ p.x ^ 2 + p.y ^ 2 ∧ p.x ^ 2 + p.y ^ 2 ≤ (dMaj / 2) ^ 2 :=
  ThreadLemmas.threadMesh_radii dMin dMaj pitch length segments li lo left m h h0 h1 hli

/-- **C16, helix and hand.** Step `j` writes its root-line vertex on the minor radius at angle
`±(j+1)·360/segments` degrees (`+`, counter-clockwise going up, for a right-hand thread, `−` for a left-hand one) and
height `j · zStep`, `zStep = threadLength/nSteps`. -/
theorem threadMesh_helix (dMin dMaj pitch length : ℝ) (segments : Nat) (li lo : ℝ) (left : Bool) (m : Mesh ℝ)
    (h : threadMesh dMin dMaj pitch length segments li lo left = some m) :
    ∃ nSteps, 2 ≤ nSteps ∧
      nSteps = HasTrunc.trunc ((length - lit 7 / lit 10 * pitch) / pitch * (cast segments : ℝ)) ∧
      ∀ j, j < nSteps - 1 → m.points[4 * (j + 1) + 2]? =
        some (ThreadLemmas.rootPoint dMin segments left ((length - lit 7 / lit 10 * pitch) / (cast nSteps : ℝ)) j) :=
  ThreadLemmas.threadMesh_helix dMin dMaj pitch length segments li lo left m h

/-- **C16, one pitch per revolution** (within the one-step rounding of the step count): with
`zStep = threadLength / nSteps`, `pitch ≤ segments · zStep < pitch · (1 + 1/nSteps)`, the upper bound stated
multiplied through by `nSteps`.  `threadLength`, `nSteps` are free: they meet `threadMesh_helix`'s
`length − 7/10·pitch` and `HasTrunc.trunc …` only by `rfl` through the ℝ instance of Lemmas/ThreadLemmas.lean. -/
theorem pitch_per_turn (pitch threadLength : ℝ) (segments : Nat) (hp : 0 < pitch) (hs : 0 < segments)
    (nSteps : Nat) (hn : nSteps = ⌊threadLength / pitch * (segments : ℝ)⌋₊) (hpos : 1 ≤ nSteps) :
    pitch ≤ (segments : ℝ) * (threadLength / (nSteps : ℝ)) ∧
      (segments : ℝ) * (threadLength / (nSteps : ℝ)) * (nSteps : ℝ) < pitch * ((nSteps : ℝ) + 1) :=
  ThreadLemmas.pitch_per_turn pitch threadLength segments hp hs nSteps hn hpos

/-- **C16/C04, the face list** is exactly two start triangles, eight triangles per step, two end triangles. -/
theorem threadMesh_faceList (dMin dMaj pitch length : ℝ) (segments : Nat) (li lo : ℝ) (left : Bool)
    (m : Mesh ℝ) (h : threadMesh dMin dMaj pitch length segments li lo left = some m) :
    ∃ n, 2 ≤ n ∧ m.faces = ThreadClosed.threadFaces left n ∧ m.points.length = 4 * n :=
  ThreadClosed.threadMesh_faces dMin dMaj pitch length segments li lo left m h

/-- **C16/C04, the thread mesh is a closed surface**: `closedOriented` against the mesh's own points. -/
theorem threadMesh_closed (dMin dMaj pitch length : ℝ) (segments : Nat) (li lo : ℝ) (left : Bool)
    (m : Mesh ℝ) (h : threadMesh dMin dMaj pitch length segments li lo left = some m) :
    Spec.closedOriented m.points.length m.faces = true :=
  ThreadClosed.threadMesh_closedOriented dMin dMaj pitch length segments li lo left m h

/-- two face lists evaluated: the smallest (two rings, right hand) and a left-handed one of four rings -/
example : (ThreadClosed.threadFaces false 2).length = 12 ∧
    (Spec.allEdges (ThreadClosed.threadFaces false 2)).Nodup ∧
    MeshLemmas.EdgeClosed (Spec.allEdges (ThreadClosed.threadFaces false 2)) := by
  unfold MeshLemmas.EdgeClosed; decide +kernel
example : (Spec.allEdges (ThreadClosed.threadFaces true 4)).Nodup ∧
    MeshLemmas.EdgeClosed (Spec.allEdges (ThreadClosed.threadFaces true 4)) := by
  unfold MeshLemmas.EdgeClosed; decide +kernel

end ScadVerif.C16
