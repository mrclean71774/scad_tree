/-
C04 — built polyhedra are closed, consistently oriented, outward.

About Model/Dim3.lean over ℝ (equal to the transcribed source by Tie/Polyhedron.lean); what each builder returns
comes from Props/C05.lean (`C05.loft_some`, …), hence the import.  `EdgeClosed (allEdges faces)`, "closed as edge
multisets": every directed edge is matched by its reverse.  `closedOriented`, the oracle's Boolean: valid indices,
faces of ≥ 3 distinct vertices, every directed edge in exactly one face, its reverse in exactly one other.

Capped meshes (`loft`, so `linear_extrude` and `cylinder`; partial revolves; open sweeps) are closed when the caps
tile their rings (the C03 certificate) or the cap runs are complete; uncapped ones (360° revolves, closed sweeps)
unconditionally.  `closedOriented`: strictly convex lofts, hence cylinders; full revolves; closed sweeps; thread
meshes.  Volume (clockwise-outside convention): `height · area` for a linear extrusion with a complete top cap.

PARTIAL: completeness of cap runs on non-convex outlines is C03's partial part (two-ears).  For capped meshes other
than convex extrusions "no directed edge in two faces", and for all but `linear_extrude` and `cylinder` the sign of
the volume, are decided by the Lean oracle (`closedOriented`, `signedVolumeCW`) on every generated mesh.
-/
import ScadVerif.Props.C03
import ScadVerif.Props.C05
import ScadVerif.Props.C07
import ScadVerif.Lemmas.MeshLemmas
import ScadVerif.Lemmas.ThreadClosed
import ScadVerif.Lemmas.FanClosed
namespace ScadVerif.C04
open ScadVerif ScadVerif.Dim3 ScadVerif.Dim3.Polyhedron ScadVerif.Spec ScadVerif.MeshLemmas ScadVerif.TriLemmas

theorem strip_length (n lo hi : Nat) : (strip n lo hi).length = n := C05.strip_length n lo hi

theorem strip_edges (n lo hi : Nat) :
    (allEdges (strip n lo hi)).Perm
      (ringF n lo ++ ups n lo hi ++ (ringF n hi).map Prod.swap ++ (ups n lo hi).map Prod.swap) :=
  MeshLemmas.strip_edges n lo hi

theorem strip_edges_nodup (n lo hi : Nat) (h : lo ≠ hi) : (allEdges (strip n lo hi)).Nodup :=
  MeshLemmas.strip_edges_nodup n lo hi h

/-- a complete cap run written to ring `k` has that ring, forwards, as boundary.  `n` is not `vs.length`: callers have
the ring size as a term of their own (`loft` writes the top cap, a run on `upper`, over `lower.length`) -/
theorem cap2d_forward {vs : List (Pt2 ℝ)} {out : List Nat} {n : Nat} (hn : vs.length = n)
    (h : Tri.triangulate2d vs = some out) (hc : out.length = 3 * (n - 2)) (k : Nat) :
    EdgeClosed (allEdges (triFaces (k * n) out) ++ (ringF n k).map Prod.swap) := by
  subst hn
  obtain ⟨hn, rfl⟩ := Tri.tri2d_eq h
  simpa only [ringF_shift, Nat.zero_add] using cap_forward vs (k * vs.length) (by omega) hc
/-- … on the reversed ring: *backwards* -/
theorem cap2d_backward {vs : List (Pt2 ℝ)} {out : List Nat} {n : Nat} (hn : vs.length = n)
    (h : Tri.triangulate2dRev vs = some out) (hc : out.length = 3 * (n - 2)) (k : Nat) :
    EdgeClosed (allEdges (triFaces (k * n) out) ++ ringF n k) := by
  subst hn
  obtain ⟨hn, rfl⟩ := Tri.tri2dRev_eq h
  simpa only [ringF_shift, Nat.zero_add] using cap_backward_at vs (k * vs.length) (by omega) hc
theorem cap3d_forward {vs : List (Pt3 ℝ)} {nml : Pt3 ℝ} {out : List Nat} {n : Nat} (hn : vs.length = n)
    (h : Tri.triangulate3d vs nml = some out) (hc : out.length = 3 * (n - 2)) (k : Nat) :
    EdgeClosed (allEdges (triFaces (k * n) out) ++ (ringF n k).map Prod.swap) :=
  cap2d_forward ((List.length_map _).trans hn) (Tri.tri3d_eq h) hc k
theorem cap3d_backward {vs : List (Pt3 ℝ)} {nml : Pt3 ℝ} {out : List Nat} {n : Nat} (hn : vs.length = n)
    (h : Tri.triangulate3dRev vs nml = some out) (hc : out.length = 3 * (n - 2)) (k : Nat) :
    EdgeClosed (allEdges (triFaces (k * n) out) ++ ringF n k) :=
  cap2d_backward ((List.length_map _).trans hn) (Tri.tri3dRev_eq h) hc k

/-- the C03 certificate for a cap: each ring edge once, in the stated direction, every other cap edge in both.  Only
ever a hypothesis, never derived from the oracle's `Spec.tilingEdges`; the `_of_complete` theorems take complete runs
instead. -/
def CapTiles (n r : Nat) (forward : Bool) (cap : List (List Nat)) : Prop :=
  ∃ d : List MeshLemmas.Edge, (allEdges cap).Perm
    ((if forward then ringF n r else (ringF n r).map Prod.swap) ++ d ++ d.map Prod.swap)

theorem CapTiles.forward {n r : Nat} {cap : List (List Nat)} (h : CapTiles n r true cap) :
    EdgeClosed (allEdges cap ++ (ringF n r).map Prod.swap) := by
  obtain ⟨d, hd⟩ := h
  exact .of_tiles hd
theorem CapTiles.backward {n r : Nat} {cap : List (List Nat)} (h : CapTiles n r false cap) :
    EdgeClosed (allEdges cap ++ ringF n r) := by
  obtain ⟨d, hd⟩ := h
  exact .of_tiles' hd

/-! ### `loft`, with `linear_extrude` and `cylinder` as special cases -/
theorem loft_faces (lower upper : List (Pt2 ℝ)) (height : ℝ) (p : Polyhedron ℝ)
    (h : loft lower upper height = some p) :
    lower.length = upper.length ∧
    ∃ bottom top, Tri.triangulate2dRev lower = some bottom ∧ Tri.triangulate2d upper = some top ∧
      p.faces = triFaces 0 bottom ++ triFaces lower.length top ++ strip lower.length 0 1 ∧
      p.points.length = 2 * lower.length := by
  obtain ⟨hl, b, t, hb, ht, rfl⟩ := C05.loft_some h
  exact ⟨hl, b, t, hb, ht, rfl, by simp; omega⟩

theorem linearExtrude_faces (profile : List (Pt2 ℝ)) (height : ℝ) (p : Polyhedron ℝ)
    (h : linearExtrude profile height = some p) :
    ∃ bottom top, Tri.triangulate2dRev profile = some bottom ∧ Tri.triangulate2d profile = some top ∧
      p.faces = triFaces 0 bottom ++ triFaces profile.length top ++ strip profile.length 0 1 ∧
      p.points.length = 2 * profile.length :=
  (loft_faces profile profile height p (C05.linearExtrude_eq_loft profile height ▸ h)).2

/-- **C04, indices and face sizes** of a loft. -/
theorem loft_valid (lower upper : List (Pt2 ℝ)) (height : ℝ) (p : Polyhedron ℝ)
    (h : loft lower upper height = some p) :
    ∀ f ∈ p.faces, (∀ v ∈ f, v < p.points.length) ∧ (f.length = 3 ∨ f.length = 4) := by
  obtain ⟨hl, b, t, hb, ht, hf, hp⟩ := loft_faces lower upper height p h
  have sb := (C03.triangulate2d_spec lower).2.2 b hb
  have st := (C03.triangulate2d_spec upper).2.1 t ht
  rw [hf, hp]
  exact capped_valid lower.length b t sb.1 (fun i hi => by rw [hl]; exact st.1 i hi)

theorem linearExtrude_valid (profile : List (Pt2 ℝ)) (height : ℝ) (p : Polyhedron ℝ)
    (h : linearExtrude profile height = some p) :
    ∀ f ∈ p.faces, (∀ v ∈ f, v < p.points.length) ∧ (f.length = 3 ∨ f.length = 4) :=
  loft_valid profile profile height p (C05.linearExtrude_eq_loft profile height ▸ h)

theorem cylinder_valid (r height : ℝ) (seg : Nat) (p : Polyhedron ℝ) (h : cylinder r height seg = some p) :
    ∀ f ∈ p.faces, (∀ v ∈ f, v < p.points.length) ∧ (f.length = 3 ∨ f.length = 4) := by
  obtain ⟨c, _, h⟩ := C05.cylinder_some h
  exact linearExtrude_valid c height p h

/-- **gluing**: bottom cap with ring 0 backwards, top cap with ring 1 forwards as boundary -/
theorem loft_closed_of_boundary (lower upper : List (Pt2 ℝ)) (height : ℝ) (p : Polyhedron ℝ)
    (h : loft lower upper height = some p)
    (hcaps : ∀ bottom top, Tri.triangulate2dRev lower = some bottom → Tri.triangulate2d upper = some top →
      EdgeClosed (allEdges (triFaces 0 bottom) ++ ringF lower.length 0) ∧
      EdgeClosed (allEdges (triFaces lower.length top) ++ (ringF lower.length 1).map Prod.swap)) :
    EdgeClosed (allEdges p.faces) := by
  obtain ⟨_, b, t, hb, ht, hf, _⟩ := loft_faces lower upper height p h
  rw [hf, allEdges_append, allEdges_append]
  exact capped_strip_closed' lower.length 0 1 _ _ (hcaps b t hb ht).1 (hcaps b t hb ht).2

/-- **C04, gluing.** Caps that tile their rings make the loft closed and consistently oriented (as edge multisets). -/
theorem loft_closed (lower upper : List (Pt2 ℝ)) (height : ℝ) (p : Polyhedron ℝ)
    (h : loft lower upper height = some p)
    (hcaps : ∀ bottom top, Tri.triangulate2dRev lower = some bottom → Tri.triangulate2d upper = some top →
      CapTiles lower.length 0 false (triFaces 0 bottom) ∧
      CapTiles lower.length 1 true (triFaces lower.length top)) :
    EdgeClosed (allEdges p.faces) :=
  loft_closed_of_boundary lower upper height p h fun b t hb ht =>
    ⟨(hcaps b t hb ht).1.backward, (hcaps b t hb ht).2.forward⟩

theorem linearExtrude_closed (profile : List (Pt2 ℝ)) (height : ℝ) (p : Polyhedron ℝ)
    (h : linearExtrude profile height = some p)
    (hcaps : ∀ bottom top, Tri.triangulate2dRev profile = some bottom → Tri.triangulate2d profile = some top →
      CapTiles profile.length 0 false (triFaces 0 bottom) ∧
      CapTiles profile.length 1 true (triFaces profile.length top)) :
    EdgeClosed (allEdges p.faces) :=
  loft_closed profile profile height p (C05.linearExtrude_eq_loft profile height ▸ h) hcaps

/-- **C04, no certificate needed.** A loft with complete cap triangulations (n-2 triangles each, read off the output
length) is closed: the certificate's edge half holds of every complete run (`complete_run_boundary`). -/
theorem loft_closed_of_complete (lower upper : List (Pt2 ℝ)) (height : ℝ) (p : Polyhedron ℝ)
    (h : loft lower upper height = some p)
    (hcomplete : ∀ bottom top, Tri.triangulate2dRev lower = some bottom → Tri.triangulate2d upper = some top →
      bottom.length = 3 * (lower.length - 2) ∧ top.length = 3 * (lower.length - 2)) :
    EdgeClosed (allEdges p.faces) := by
  refine loft_closed_of_boundary lower upper height p h fun b t hb ht => ?_
  have hc := hcomplete b t hb ht
  exact ⟨by simpa only [Nat.zero_mul] using cap2d_backward rfl hb hc.1 0,
    by simpa only [Nat.one_mul] using cap2d_forward (C05.loft_some h).1.symm ht hc.2 1⟩

theorem linearExtrude_closed_of_complete (profile : List (Pt2 ℝ)) (height : ℝ) (p : Polyhedron ℝ)
    (h : linearExtrude profile height = some p)
    (hcomplete : ∀ bottom top, Tri.triangulate2dRev profile = some bottom → Tri.triangulate2d profile = some top →
      bottom.length = 3 * (profile.length - 2) ∧ top.length = 3 * (profile.length - 2)) :
    EdgeClosed (allEdges p.faces) :=
  loft_closed_of_complete profile profile height p (C05.linearExtrude_eq_loft profile height ▸ h) hcomplete

/-- **C04, cylinders — unconditional.** Every cylinder the library builds (viewer edges, thread cores, `cylinder`
itself) is closed as edge multisets: the circle is strictly convex, so the cap runs complete (C03 `convex_complete`). -/
theorem cylinder_closed (r height : ℝ) (hr : 0 < r) (seg : Nat) (p : Polyhedron ℝ)
    (h : cylinder r height seg = some p) : EdgeClosed (allEdges p.faces) := by
  obtain ⟨c, hc, h⟩ := C05.cylinder_some h
  have hconv := C07.circle_convex r hr seg c hc
  exact linearExtrude_closed_of_complete c height p h fun bottom top hb ht =>
    ⟨convex_complete2d false hconv (.inr hb), convex_complete2d false hconv (.inl ht)⟩

/-! ### `rotate_extrude` -/
theorem rotateExtrude_faces (profile2 : List (Pt2 ℝ)) (degrees : ℝ) (segments : Nat) (p : Polyhedron ℝ)
    (h : rotateExtrude profile2 degrees segments = some p) :
    let n := profile2.length
    let body := (List.range (segments - 1)).flatMap fun j => stripRev n j (j + 1)
    (degrees = 360 ∧ p.faces = body ++ (List.range n).map fun i =>
        [(segments - 1) * n + i, i, (i + 1) % n, (segments - 1) * n + (i + 1) % n]) ∨
    (degrees ≠ 360 ∧ ∃ sc ec,
      Tri.triangulate3d (profile2.map fun q => (⟨q.x, 0, q.y⟩ : Pt3 ℝ)) ⟨0, -1, 0⟩ = some sc ∧
      Tri.triangulate3dRev (profile2.map fun q => (⟨q.x, 0, q.y⟩ : Pt3 ℝ)) ⟨0, -1, 0⟩ = some ec ∧
      p.faces = triFaces 0 sc ++ body ++ stripRev n (segments - 1) segments ++ triFaces (segments * n) ec) := by
  obtain ⟨_, ⟨hd, rfl⟩ | ⟨hd, sc, ec, hsc, hec, rfl⟩⟩ := C05.rotateExtrude_some h
  · exact .inl ⟨hd, rfl⟩
  · exact .inr ⟨hd, sc, ec, hsc, hec, rfl⟩

theorem rotateExtrude_full_faces (profile2 : List (Pt2 ℝ)) (segments : Nat) (p : Polyhedron ℝ)
    (h : rotateExtrude profile2 360 segments = some p) :
    3 ≤ segments ∧ p.faces = fullStrips profile2.length segments ∧
      p.points.length = segments * profile2.length := by
  obtain ⟨⟨_, _, hs⟩, ⟨_, rfl⟩ | ⟨hd, _⟩⟩ := C05.rotateExtrude_some h
  · obtain ⟨k, rfl⟩ : ∃ k, segments = k + 1 := ⟨segments - 1, by omega⟩
    refine ⟨hs, ?_, ?_⟩
    · rw [fullStrips_succ]
      simp only [revolveBody, stripRev, Nat.add_sub_cancel, Nat.zero_mul, Nat.zero_add]
    rw [List.length_append, List.length_map,
      flatMap_length_const _ _ profile2.length (fun j _ => (C05.revolveRing_length _ _ _).trans (List.length_map _)),
      List.length_range, Nat.add_sub_cancel, Nat.succ_mul]
    omega
  · exact absurd rfl hd

theorem rotateExtrude_partial_faces (profile2 : List (Pt2 ℝ)) (degrees : ℝ) (segments : Nat) (p : Polyhedron ℝ)
    (h : rotateExtrude profile2 degrees segments = some p) (hd : degrees ≠ 360) :
    ∃ sc ec, Tri.triangulate3d (profile2.map fun q => (⟨q.x, 0, q.y⟩ : Pt3 ℝ)) ⟨0, -1, 0⟩ = some sc ∧
      Tri.triangulate3dRev (profile2.map fun q => (⟨q.x, 0, q.y⟩ : Pt3 ℝ)) ⟨0, -1, 0⟩ = some ec ∧
      p.faces = triFaces 0 sc ++ revolveBody profile2.length segments ++
        triFaces (segments * profile2.length) ec := by
  obtain ⟨⟨_, _, hs⟩, ⟨he, _⟩ | ⟨_, sc, ec, hsc, hec, rfl⟩⟩ := C05.rotateExtrude_some h
  · exact absurd he hd
  · obtain ⟨k, rfl⟩ : ∃ k, segments = k + 1 := ⟨segments - 1, by omega⟩
    refine ⟨sc, ec, hsc, hec, ?_⟩
    rw [revolveBody_succ]
    simp only [revolveBody, Nat.add_sub_cancel, List.append_assoc]

/-- **C04, full revolve.** Closed (as edge multisets), unconditionally: no caps. -/
theorem rotateExtrude_full_closed (profile2 : List (Pt2 ℝ)) (segments : Nat) (p : Polyhedron ℝ)
    (h : rotateExtrude profile2 360 segments = some p) : EdgeClosed (allEdges p.faces) :=
  (rotateExtrude_full_faces profile2 segments p h).2.1 ▸ fullStrips_closed _ _

/-- **C04, full revolve — complete.** Profiles of ≥ 3 points: `closedOriented`, which the oracle evaluates on every
mesh. -/
theorem rotateExtrude_full_closedOriented (profile2 : List (Pt2 ℝ)) (segments : Nat) (p : Polyhedron ℝ)
    (h : rotateExtrude profile2 360 segments = some p) (hn : 3 ≤ profile2.length) :
    closedOriented p.points.length p.faces = true := by
  obtain ⟨hs, hf, hp⟩ := rotateExtrude_full_faces profile2 segments p h
  rw [hf, hp]
  exact fullStrips_closedOriented _ _ hn hs

theorem rotateExtrude_closed_of_boundary (profile2 : List (Pt2 ℝ)) (degrees : ℝ) (segments : Nat) (p : Polyhedron ℝ)
    (h : rotateExtrude profile2 degrees segments = some p) (hd : degrees ≠ 360)
    (hcaps : ∀ sc ec,
      Tri.triangulate3d (profile2.map fun q => (⟨q.x, 0, q.y⟩ : Pt3 ℝ)) ⟨0, -1, 0⟩ = some sc →
      Tri.triangulate3dRev (profile2.map fun q => (⟨q.x, 0, q.y⟩ : Pt3 ℝ)) ⟨0, -1, 0⟩ = some ec →
      EdgeClosed (allEdges (triFaces 0 sc) ++ (ringF profile2.length 0).map Prod.swap) ∧
      EdgeClosed (allEdges (triFaces (segments * profile2.length) ec) ++ ringF profile2.length segments)) :
    EdgeClosed (allEdges p.faces) := by
  obtain ⟨sc, ec, h1, h2, hf⟩ := rotateExtrude_partial_faces profile2 degrees segments p h hd
  rw [hf, allEdges_append, allEdges_append]
  exact partialRevolve_closed' _ _ _ _ (hcaps sc ec h1 h2).1 (hcaps sc ec h1 h2).2

/-- **C04, partial revolve.** Closed when the caps tile their rings. -/
theorem rotateExtrude_partial_closed (profile2 : List (Pt2 ℝ)) (degrees : ℝ) (segments : Nat) (p : Polyhedron ℝ)
    (h : rotateExtrude profile2 degrees segments = some p) (hd : degrees ≠ 360) (hs : 1 ≤ segments)
    (hcaps : ∀ sc ec,
      Tri.triangulate3d (profile2.map fun q => (⟨q.x, 0, q.y⟩ : Pt3 ℝ)) ⟨0, -1, 0⟩ = some sc →
      Tri.triangulate3dRev (profile2.map fun q => (⟨q.x, 0, q.y⟩ : Pt3 ℝ)) ⟨0, -1, 0⟩ = some ec →
      CapTiles profile2.length 0 true (triFaces 0 sc) ∧
      CapTiles profile2.length segments false (triFaces (segments * profile2.length) ec)) :
    EdgeClosed (allEdges p.faces) :=
  rotateExtrude_closed_of_boundary profile2 degrees segments p h hd fun sc ec h1 h2 =>
    ⟨(hcaps sc ec h1 h2).1.forward, (hcaps sc ec h1 h2).2.backward⟩

/-- **C04, partial revolve — no certificate needed.** Complete cap runs suffice. -/
theorem rotateExtrude_closed_of_complete (profile2 : List (Pt2 ℝ)) (degrees : ℝ) (segments : Nat)
    (p : Polyhedron ℝ) (h : rotateExtrude profile2 degrees segments = some p) (hd : degrees ≠ 360)
    (hcomplete : ∀ sc ec,
      Tri.triangulate3d (profile2.map fun q => (⟨q.x, 0, q.y⟩ : Pt3 ℝ)) ⟨0, -1, 0⟩ = some sc →
      Tri.triangulate3dRev (profile2.map fun q => (⟨q.x, 0, q.y⟩ : Pt3 ℝ)) ⟨0, -1, 0⟩ = some ec →
      sc.length = 3 * (profile2.length - 2) ∧ ec.length = 3 * (profile2.length - 2)) :
    EdgeClosed (allEdges p.faces) := by
  refine rotateExtrude_closed_of_boundary profile2 degrees segments p h hd fun sc ec h1 h2 => ?_
  have hc := hcomplete sc ec h1 h2
  exact ⟨by simpa only [Nat.zero_mul] using cap3d_forward (List.length_map _) h1 hc.1 0,
    cap3d_backward (List.length_map _) h2 hc.2 segments⟩

/-! ### `sweep` -/
theorem sweep_faces (profile2 : List (Pt2 ℝ)) (path : List (Pt3 ℝ)) (twist : ℝ) (closed : Bool) (p : Polyhedron ℝ)
    (h : sweep profile2 path twist closed = some p) :
    let n := profile2.length
    let len := path.length
    let body := ((List.range (len - 2)).flatMap fun j => strip n j (j + 1)) ++ strip n (len - 2) (len - 1)
    2 ≤ len ∧
    ((closed = true ∧ p.faces = body ++ (List.range n).map fun i =>
        [(len - 1) * n + i, (len - 1) * n + (i + 1) % n, (i + 1) % n, i]) ∨
     (closed = false ∧ ∃ sc ec : List Nat, p.faces = triFaces 0 sc ++ body ++ triFaces ((len - 1) * n) ec)) := by
  obtain ⟨hl, _, _, _, _, _, _, _, ⟨hc, hf⟩ | ⟨hc, _, _, sc, ec, _, _, hf⟩⟩ := C05.sweep_some h
  · exact ⟨hl, .inl ⟨hc, hf⟩⟩
  · exact ⟨hl, .inr ⟨hc, sc, ec, hf⟩⟩

theorem sweep_closed_faces (profile2 : List (Pt2 ℝ)) (path : List (Pt3 ℝ)) (twist : ℝ) (p : Polyhedron ℝ)
    (h : sweep profile2 path twist true = some p) :
    p.faces = closedStrips profile2.length path.length ∧ p.points.length = path.length * profile2.length := by
  obtain ⟨hl, first, mid, last, h1, h2, h3, hp, ⟨_, hf⟩ | ⟨hc, _⟩⟩ := C05.sweep_some h
  · obtain ⟨k, hk⟩ : ∃ k, path.length = k + 2 := ⟨path.length - 2, by omega⟩
    rw [hk] at h2 hf ⊢
    simp only [Nat.add_sub_cancel, show k + 2 - 1 = k + 1 from rfl] at h2 hf
    constructor
    · rw [hf, closedStrips_succ, sweepBody_succ]
      simp only [sweepBody, strip, Nat.zero_mul, Nat.zero_add]
    · rw [hp, List.length_append, List.length_append, h1, h2, h3, Nat.succ_mul, Nat.succ_mul]
      omega
  · simp at hc

/-- **C04, closed sweep.** Closed, unconditionally. -/
theorem sweep_closed_closed (profile2 : List (Pt2 ℝ)) (path : List (Pt3 ℝ)) (twist : ℝ) (p : Polyhedron ℝ)
    (h : sweep profile2 path twist true = some p) : EdgeClosed (allEdges p.faces) :=
  (sweep_closed_faces profile2 path twist p h).1 ▸ closedStrips_closed _ _

/-- **C04, closed sweep — complete.** Profile and path of ≥ 3 points: the oracle's `closedOriented`. -/
theorem sweep_closed_closedOriented (profile2 : List (Pt2 ℝ)) (path : List (Pt3 ℝ)) (twist : ℝ) (p : Polyhedron ℝ)
    (h : sweep profile2 path twist true = some p) (hn : 3 ≤ profile2.length) (hl : 3 ≤ path.length) :
    closedOriented p.points.length p.faces = true := by
  obtain ⟨hf, hp⟩ := sweep_closed_faces profile2 path twist p h
  rw [hf, hp]
  exact closedStrips_closedOriented _ _ hn hl

/-- the caps triangulate the first and the last ring as they sit in the point list -/
theorem sweep_open_faces (profile2 : List (Pt2 ℝ)) (path : List (Pt3 ℝ)) (twist : ℝ) (p : Polyhedron ℝ)
    (h : sweep profile2 path twist false = some p) :
    (p.points.take profile2.length).length = profile2.length ∧
    (p.points.drop ((path.length - 1) * profile2.length)).length = profile2.length ∧
    ∃ (d0 dL : Pt3 ℝ) (sc ec : List Nat),
      Tri.triangulate3dRev (p.points.take profile2.length) d0 = some sc ∧
      Tri.triangulate3d (p.points.drop ((path.length - 1) * profile2.length)) dL = some ec ∧
      p.faces = triFaces 0 sc ++ sweepBody profile2.length (path.length - 1) ++
        triFaces ((path.length - 1) * profile2.length) ec := by
  obtain ⟨hl, first, mid, last, h1, h2, h3, hp, ⟨hc, _⟩ | ⟨_, d0, dL, sc, ec, hsc, hec, hf⟩⟩ := C05.sweep_some h
  · simp at hc
  · obtain ⟨k, hk⟩ : ∃ k, path.length = k + 2 := ⟨path.length - 2, by omega⟩
    rw [hk] at h2 hf ⊢
    simp only [Nat.add_sub_cancel, show k + 2 - 1 = k + 1 from rfl] at h2 hf ⊢
    have htake : p.points.take profile2.length = first := by rw [hp, List.append_assoc, List.take_left' h1]
    have hdrop : p.points.drop ((k + 1) * profile2.length) = last := by
      rw [hp, List.drop_left' (by rw [List.length_append, h1, h2, Nat.succ_mul]; omega)]
    rw [htake, hdrop, sweepBody_succ]
    exact ⟨h1, h3, d0, dL, sc, ec, hsc, hec, hf⟩

/-- **C04, open sweep — no certificate needed.** `sweep_open_faces` hides the normals handed to the triangulator (path
directions) behind its `∃`, so `hcomplete` asks for completeness under every pair of normals on which both entry
points return.  A normal acts only through `Tri.classify` (`Tri.tri3d_eq`): for given inputs, the runs on the six
axis projections (`Tri.project`) of the two end rings. -/
theorem sweep_open_closed_of_complete (profile2 : List (Pt2 ℝ)) (path : List (Pt3 ℝ)) (twist : ℝ)
    (p : Polyhedron ℝ) (h : sweep profile2 path twist false = some p)
    (hcomplete : ∀ d0 dL sc ec,
      Tri.triangulate3dRev (p.points.take profile2.length) d0 = some sc →
      Tri.triangulate3d (p.points.drop ((path.length - 1) * profile2.length)) dL = some ec →
      sc.length = 3 * (profile2.length - 2) ∧ ec.length = 3 * (profile2.length - 2)) :
    EdgeClosed (allEdges p.faces) := by
  obtain ⟨h1, h3, d0, dL, sc, ec, hsc, hec, hf⟩ := sweep_open_faces profile2 path twist p h
  obtain ⟨c1, c2⟩ := hcomplete d0 dL sc ec hsc hec
  rw [hf, allEdges_append, allEdges_append]
  exact (sweepBody_closed _ _).caps (by simpa only [Nat.zero_mul] using cap3d_backward h1 hsc c1 0)
    (cap3d_forward h3 hec c2 _)

theorem mul_mono_lt (a b n : Nat) (h : a + 1 ≤ b) : (a + 1) * n ≤ b * n := Nat.mul_le_mul_right _ h

/-! ### enclosed volume (clockwise-outside convention) -/
/-- six times one face's signed volume (fan from its first vertex) -/
noncomputable def faceVol (p : Nat → Pt3 ℝ) : List Nat → ℝ
  | v0 :: rest => sixVolumeCCWAt.fan p (p v0) rest
  | [] => 0

theorem six_eq_sum (p : Nat → Pt3 ℝ) (faces : List (List Nat)) :
    sixVolumeCCWAt p faces = (faces.map (faceVol p)).sum := by
  rw [List.sum_eq_foldl, List.foldl_map]
  -- the fold's step is `acc + faceVol p f`
  refine congrArg (fun f => List.foldl f 0 faces) (funext fun acc => funext fun f => ?_)
  cases f
  exacts [(add_zero acc).symm, rfl]

theorem six_append (p : Nat → Pt3 ℝ) (a b : List (List Nat)) :
    sixVolumeCCWAt p (a ++ b) = sixVolumeCCWAt p a + sixVolumeCCWAt p b := by
  simp [six_eq_sum]

theorem faceVol_tri (p : Nat → Pt3 ℝ) (a b c : Nat) :
    faceVol p [a, b, c] = Pt3.dot (p a) (Pt3.cross (p b) (p c)) := by
  simp [faceVol, sixVolumeCCWAt.fan]
theorem faceVol_quad (p : Nat → Pt3 ℝ) (a b c d : Nat) :
    faceVol p [a, b, c, d] = Pt3.dot (p a) (Pt3.cross (p b) (p c)) + Pt3.dot (p a) (Pt3.cross (p c) (p d)) := by
  simp [faceVol, sixVolumeCCWAt.fan]

noncomputable def exPt (profile : List (Pt2 ℝ)) (h : ℝ) (i : Nat) : Pt3 ℝ :=
  (profile.map (·.asPt3 0) ++ profile.map (·.asPt3 h)).getD i ⟨0, 0, 0⟩

theorem exPt_lo (profile : List (Pt2 ℝ)) (h : ℝ) (i : Nat) (hi : i < profile.length) :
    exPt profile h i = ⟨(profile.getD i d0).x, (profile.getD i d0).y, 0⟩ := by
  simp [exPt, List.getD_eq_getElem?_getD, List.getElem?_append_left, hi, Pt2.asPt3]
theorem exPt_hi (profile : List (Pt2 ℝ)) (h : ℝ) (i : Nat) (hi : i < profile.length) :
    exPt profile h (i + profile.length) = ⟨(profile.getD i d0).x, (profile.getD i d0).y, h⟩ := by
  simp [exPt, List.getD_eq_getElem?_getD, hi, Pt2.asPt3]

theorem det_zh (a b c : Pt2 ℝ) (h : ℝ) :
    Pt3.dot (⟨a.x, a.y, h⟩ : Pt3 ℝ) (Pt3.cross ⟨b.x, b.y, h⟩ ⟨c.x, c.y, h⟩) = h * Spec.cross3 a b c := by
  simp only [Pt3.dot, Pt3.cross, Spec.cross3]; ring
/-- the two triangles of the side quad over the profile edge `a b` -/
theorem det_quad (a b : Pt2 ℝ) (h : ℝ) :
    Pt3.dot (⟨a.x, a.y, 0⟩ : Pt3 ℝ) (Pt3.cross ⟨b.x, b.y, 0⟩ ⟨b.x, b.y, h⟩) +
      Pt3.dot (⟨a.x, a.y, 0⟩ : Pt3 ℝ) (Pt3.cross ⟨b.x, b.y, h⟩ ⟨a.x, a.y, h⟩) = 2 * h * cross2 a b := by
  simp only [Pt3.dot, Pt3.cross, cross2]; ring


/-- the shoelace sum with the builders' wrap-around index `(i+1) % n` -/
theorem area2_range (l : List (Pt2 ℝ)) :
    area2 l = ((List.range l.length).map fun i => cross2 (l.getD i d0) (l.getD ((i + 1) % l.length) d0)).sum := by
  rw [area2_eq_ring, Ring.ringPairs_eq_range d0, List.map_map]; rfl

/-- a cap at height `z` contributes `z` times the signed areas of its triangles -/
theorem cap_sum (profile : List (Pt2 ℝ)) (h : ℝ) (off : Nat) (z : ℝ)
    (hpt : ∀ i, i < profile.length →
      exPt profile h (i + off) = ⟨(profile.getD i d0).x, (profile.getD i d0).y, z⟩)
    (l : List Nat) (hl : ∀ i ∈ l, i < profile.length) :
    sixVolumeCCWAt (exPt profile h) (triFaces off l) = z * C03.sumTri profile l := by
  rw [six_eq_sum, triFaces_eq_triples, List.map_map, C03.sumTri, ← List.sum_map_mul_left]
  congr 1
  apply List.map_congr_left
  intro t ht
  obtain ⟨a, ha, b, hb, c, hc, rfl⟩ := mem_triples l t ht
  simp only [Function.comp, List.map, faceVol_tri, hpt _ (hl a ha), hpt _ (hl b hb), hpt _ (hl c hc), det_zh]

/-- quad `i` contributes `2·h·cross2 pᵢ pᵢ₊₁` (`det_quad`), the terms of the shoelace sum (`area2_range`) -/
theorem strip_sum (profile : List (Pt2 ℝ)) (h : ℝ) :
    sixVolumeCCWAt (exPt profile h) (strip profile.length 0 1) = 2 * h * area2 profile := by
  rw [six_eq_sum, area2_range profile, strip, List.map_map, ← List.sum_map_mul_left]
  congr 1
  apply List.map_congr_left
  intro i hi
  simp only [List.mem_range] at hi
  have hs : (i + 1) % profile.length < profile.length := Nat.mod_lt _ (by omega)
  simp only [Function.comp, faceVol_quad, Nat.zero_mul, Nat.zero_add, Nat.one_mul]
  rw [exPt_lo profile h i hi, exPt_lo profile h _ hs, Nat.add_comm profile.length ((i + 1) % profile.length),
    Nat.add_comm profile.length i, exPt_hi profile h _ hs, exPt_hi profile h i hi, det_quad]


/-- **C04, volume of a linear extrusion.** With a complete top cap the volume, under the library's clockwise-outside
convention, is `height · area`, `area = −area2/2` the (positive) area of a clockwise profile — for every profile,
simple or not. -/
theorem linearExtrude_volume (profile : List (Pt2 ℝ)) (height : ℝ) (p : Polyhedron ℝ)
    (h : linearExtrude profile height = some p)
    (hcomplete : ∀ top, Tri.triangulate2d profile = some top → top.length = 3 * (profile.length - 2)) :
    signedVolumeCW p.points p.faces = height * (-(area2 profile) / 2) := by
  obtain ⟨b, t, hb, ht, hf, _⟩ := linearExtrude_faces profile height p h
  have hp := C05.linearExtrude_points profile height p h
  have sb := (C03.triangulate2d_spec profile).2.2 b hb
  have st := (C03.triangulate2d_spec profile).2.1 t ht
  -- bottom cap 0 (z = 0), top cap height · area2 (`complete_area2d`), side quads 2 · height · area2
  have hsix : sixVolumeCCW p.points p.faces = 3 * height * area2 profile := by
    unfold sixVolumeCCW
    rw [hp, hf]
    show sixVolumeCCWAt (exPt profile height) _ = _
    rw [six_append, six_append, cap_sum profile height 0 0 (exPt_lo profile height) b sb.1,
      cap_sum profile height profile.length height (exPt_hi profile height) t st.1,
      strip_sum profile height, C03.complete_area2d ht (hcomplete t ht)]
    ring
  unfold signedVolumeCW
  rw [hsix]
  simp only [cast_eq_natCast]
  norm_num
  ring


theorem convex_area_neg : ∀ (n : Nat) (l : List (Pt2 ℝ)), l.length = n + 3 → ConvexPos false l → area2 l < 0 :=
  fun _ l hl => convex_area false l (by omega)

/-- **C04, cylinders.** A cylinder encloses `height ·` (area of its n-gon) under the clockwise-outside convention,
which is positive: its faces wind clockwise seen from outside. -/
theorem cylinder_volume (r height : ℝ) (hr : 0 < r) (hh : 0 < height) (seg : Nat) (p : Polyhedron ℝ)
    (h : cylinder r height seg = some p) :
    ∃ c, Dim2.circle r seg = some c ∧ signedVolumeCW p.points p.faces = height * (-(area2 c) / 2) ∧
      0 < signedVolumeCW p.points p.faces := by
  obtain ⟨c, hc, h⟩ := C05.cylinder_some h
  have hconv := C07.circle_convex r hr seg c hc
  obtain ⟨b, t, hb, ht, _, _⟩ := linearExtrude_faces c height p h
  have hn := (Tri.tri2d_eq ht).1
  have hvol := linearExtrude_volume c height p h fun top htop => convex_complete2d false hconv (.inl htop)
  have hneg := convex_area_neg (c.length - 3) c (by omega) hconv
  refine ⟨c, hc, hvol, ?_⟩
  rw [hvol]
  exact mul_pos hh (div_pos (neg_pos.mpr hneg) two_pos)


/-! ### the certificate is inhabited; the oracle's Boolean for convex lofts, cylinders, thread meshes -/
/-- the two triangles of a square tile its ring -/
example : CapTiles 4 0 true [[0, 1, 2], [0, 2, 3]] :=
  ⟨[(2, 0)], by decide⟩

/-- **C04, strictly convex outlines (either direction each): `loft`'s mesh satisfies `closedOriented`**, with no
hypothesis on the triangulator: there the loop emits the fan (C03 `convex_fan`), a fan has no directed edge twice
(Lemmas/FanClosed), a cap never repeats a forward ring edge of the strip (`cap_avoids_ring`), caps glue to the
strip. -/
theorem loft_convex_closedOriented (cl cu : Bool) (lower upper : List (Pt2 ℝ)) (height : ℝ) (p : Polyhedron ℝ)
    (hl : TriLemmas.ConvexPos cl lower) (hu : TriLemmas.ConvexPos cu upper) (h : loft lower upper height = some p) :
    closedOriented p.points.length p.faces = true := by
  obtain ⟨hlen, b, t, hb, ht, hf, hp⟩ := loft_faces lower upper height p h
  have sb := ((C03.triangulate2d_spec lower).2.2 b hb).1
  have st := ((C03.triangulate2d_spec upper).2.1 t ht).1
  have cB := convex_complete2d cl hl (.inr hb)
  have cT := convex_complete2d cu hu (.inl ht)
  obtain ⟨fB, nB⟩ := FanClosed.convex_cap2d cl hl (.inr hb) 0
  obtain ⟨fT, nT⟩ := FanClosed.convex_cap2d cu hu (.inl ht) lower.length
  rw [hf, hp]
  exact FanClosed.capped_strip_closedOriented lower.length (by have := (Tri.tri2dRev_eq hb).1; omega) b t sb
    (fun i hi => hlen ▸ st i hi) fB fT nB nT (by simpa only [Nat.zero_mul] using cap2d_backward rfl hb cB 0)
    (by simpa only [Nat.one_mul] using cap2d_forward hlen.symm ht (hlen ▸ cT) 1)

theorem linearExtrude_convex_closedOriented (ccw : Bool) (c : List (Pt2 ℝ)) (height : ℝ) (p : Polyhedron ℝ)
    (hconv : TriLemmas.ConvexPos ccw c) (h : linearExtrude c height = some p) :
    closedOriented p.points.length p.faces = true :=
  loft_convex_closedOriented ccw ccw c c height p hconv hconv (C05.linearExtrude_eq_loft c height ▸ h)

/-- **every cylinder satisfies `closedOriented`**, hence every viewer edge mesh and thread core rod -/
theorem cylinder_closedOriented (r height : ℝ) (hr : 0 < r) (seg : Nat) (p : Polyhedron ℝ)
    (h : cylinder r height seg = some p) : closedOriented p.points.length p.faces = true := by
  obtain ⟨c, hc, h⟩ := C05.cylinder_some h
  exact linearExtrude_convex_closedOriented false c height p (C07.circle_convex r hr seg c hc) h

/-- **every mesh `threaded_cylinder` builds satisfies `closedOriented`** (Lemmas/ThreadClosed.lean: telescoping
of the four-vertex rings, no directed edge twice). -/
theorem threadMesh_closedOriented (dMin dMaj pitch length : ℝ) (segments : Nat) (li lo : ℝ) (left : Bool)
    (m : Thread.Mesh ℝ) (h : Thread.threadMesh dMin dMaj pitch length segments li lo left = some m) :
    closedOriented m.points.length m.faces = true :=
  ThreadClosed.threadMesh_closedOriented dMin dMaj pitch length segments li lo left m h

end ScadVerif.C04
