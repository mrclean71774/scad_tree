/-
Theorems of C07 restated about the *transcribed source* (`Tie/Geom.lean`, all `rfl`).
-/
import ScadVerif.Props.C07
import ScadVerif.Tie.Geom
namespace ScadVerif.SrcC07
open ScadVerif ScadVerif.TriLemmas

theorem circle_convex (r : ℝ) (hr : 0 < r) (n : Nat) (pts : List (Pt2 ℝ)) (h : Src.dim2.circle r n = some pts) :
    ConvexPos false pts := by
  rw [TieGeom.circle] at h
  exact C07.circle_convex r hr n pts h

theorem arc_length (start : Pt2 ℝ) (degrees : ℝ) (n : Nat) (pts : List (Pt2 ℝ))
    (h : Src.dim2.arc start degrees n = some pts) : pts.length = if degrees = 360 then n else n + 1 := by
  rw [TieGeom.arc] at h
  exact C07.arc_length start degrees n pts h

end ScadVerif.SrcC07
