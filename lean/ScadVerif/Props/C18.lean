/-
C18 — a Viewer scene contains everything added, where it was added.
About Model/Viewer.lean (the correspondence run compares the scene tree after every generated history with
the crate's).  For every history of `add_*` calls, any (also empty) arguments: the previous scene stays
(`Extends`), radii and segment count too (`Grows`).  What is added, in order: point adders and `addLines3d`
(`*_item`; `addLines2d` only through `addLines2d_eq`; curve and chain adders: `Adds` / `Grows` only).  Edge
meshes: C04 cylinders, faces untouched, points moved so that the axis lies on the edge.
-/
import ScadVerif.Lemmas.PtReal
import ScadVerif.Model.Viewer
import ScadVerif.Props.C04
import ScadVerif.Props.C09
import ScadVerif.Props.C10
set_option linter.unusedSectionVars false
namespace ScadVerif.C18
open ScadVerif ScadVerif.Viewer ScadVerif.Parts


theorem push_some (st : State ℝ) (s : Scad ℝ) : (push st s).scad.isSome = true := rfl
theorem pushGroup_some (st : State ℝ) (s : Scad ℝ) : (pushGroup st s).scad.isSome = true := rfl

/-- `old` sits unchanged at the end of the first-child spine of unions, each adding one item on its right -/
inductive Extends : Scad ℝ → Scad ℝ → Prop
  | refl (s : Scad ℝ) : Extends s s
  | item (old mid x : Scad ℝ) : Extends old mid → Extends old (Scad.node .union [mid, x])

theorem Extends.trans {a b c : Scad ℝ} (h1 : Extends a b) (h2 : Extends b c) : Extends a c := by
  induction h2 with
  | refl => exact h1
  | item mid x _ ih => exact Extends.item _ _ _ ih

def consts (st : State ℝ) : ℝ × ℝ × Nat := (st.pointRadius, st.edgeRadius, st.segments)

/-- Says nothing of `st'.scad` when `st` has no scene; that a call leaves one is `step_scene`. -/
def Grows (st st' : State ℝ) : Prop :=
  consts st' = consts st ∧ ∀ old, st.scad = some old → ∃ new, st'.scad = some new ∧ Extends old new

theorem Grows.refl (st : State ℝ) : Grows st st := ⟨rfl, fun old h => ⟨old, h, Extends.refl _⟩⟩
theorem Grows.trans {a b c : State ℝ} (h1 : Grows a b) (h2 : Grows b c) : Grows a c := by
  refine ⟨h2.1.trans h1.1, fun old ho => ?_⟩
  obtain ⟨mid, hm, e1⟩ := h1.2 old ho
  obtain ⟨new, hn, e2⟩ := h2.2 mid hm
  exact ⟨new, hn, e1.trans e2⟩

theorem push_grows (st : State ℝ) (s : Scad ℝ) : Grows st (push st s) := by
  refine ⟨rfl, fun old ho => ?_⟩
  exact ⟨Scad.add old s, by simp [push, ho], Extends.item _ _ _ (Extends.refl _)⟩
theorem pushGroup_grows (st : State ℝ) (s : Scad ℝ) : Grows st (pushGroup st s) := by
  refine ⟨rfl, fun old ho => ?_⟩
  exact ⟨union [old, s], by simp [pushGroup, ho], Extends.item _ _ _ (Extends.refl _)⟩

theorem Grows.scene {a b : State ℝ} (h : Grows a b) (ha : a.scad.isSome = true) : b.scad.isSome = true := by
  obtain ⟨old, ho⟩ := Option.isSome_iff_exists.mp ha
  obtain ⟨new, hn, -⟩ := h.2 old ho
  rw [hn]; rfl

def Adds (st st' : State ℝ) : Prop := Grows st st' ∧ st'.scad.isSome = true

theorem push_adds (st : State ℝ) (s : Scad ℝ) : Adds st (push st s) := ⟨push_grows st s, push_some st s⟩
theorem pushGroup_adds (st : State ℝ) (s : Scad ℝ) : Adds st (pushGroup st s) :=
  ⟨pushGroup_grows st s, pushGroup_some st s⟩
theorem Adds.trans {a b c : State ℝ} (h : Adds a b) (g : Grows b c) : Adds a c := ⟨h.1.trans g, g.scene h.2⟩

theorem addLines3d_some {st st' : State ℝ} {es : List (Pt3 ℝ × Pt3 ℝ)} {c : List Char}
    (h : addLines3d st es c = some st') :
    ∃ ms, es.mapM (fun e => edgeMesh st e.1 e.2) = some ms ∧ st' = pushGroup st (colorA c ms) := by
  obtain ⟨ms, hm, h⟩ := Option.bind_eq_some_iff.mp h
  exact ⟨ms, hm, (Option.some.inj h).symm⟩

/-- the source measures the cylinder's length in 2D; over ℝ that is the 3D distance of the lifted points -/
theorem edgeMesh2_eq (st : State ℝ) (a b : Pt2 ℝ) : edgeMesh2 st a b = edgeMesh st (a.asPt3 0) (b.asPt3 0) := by
  have hlen : (Pt2.sub b a).len = (Pt3.sub (b.asPt3 0) (a.asPt3 0)).len := by
    simp [Pt2.len, Pt3.len, Pt2.len2, Pt3.len2, Pt2.dot, Pt3.dot, Pt2.sub, Pt3.sub, Pt2.asPt3]
  unfold edgeMesh2 edgeMesh
  rw [hlen]

theorem addLines2d_eq (st : State ℝ) (es : List (Pt2 ℝ × Pt2 ℝ)) (c : List Char) :
    addLines2d st es c = addLines3d st (es.map fun e => (e.1.asPt3 0, e.2.asPt3 0)) c := by
  unfold addLines2d addLines3d
  rw [List.mapM_map]
  exact congrArg (fun f => es.mapM f >>= _) (funext fun e => edgeMesh2_eq st e.1 e.2)

theorem addLines3d_adds {st st' : State ℝ} {es : List (Pt3 ℝ × Pt3 ℝ)} {c : List Char}
    (h : addLines3d st es c = some st') : Adds st st' := by
  obtain ⟨ms, -, rfl⟩ := addLines3d_some h
  exact pushGroup_adds _ _
theorem addLines2d_adds {st st' : State ℝ} {es : List (Pt2 ℝ × Pt2 ℝ)} {c : List Char}
    (h : addLines2d st es c = some st') : Adds st st' :=
  addLines3d_adds (addLines2d_eq st es c ▸ h)

theorem addLines3d_grows (st st' : State ℝ) (es : List (Pt3 ℝ × Pt3 ℝ)) (c : List Char)
    (h : addLines3d st es c = some st') : Grows st st' :=
  (addLines3d_adds h).1
theorem addLines2d_grows (st st' : State ℝ) (es : List (Pt2 ℝ × Pt2 ℝ)) (c : List Char)
    (h : addLines2d st es c = some st') : Grows st st' :=
  (addLines2d_adds h).1

theorem Grows.bind {a c : State ℝ} {o : Option (State ℝ)} {f : State ℝ → Option (State ℝ)} (h : o.bind f = some c)
    (ho : ∀ b, o = some b → Grows a b) (hf : ∀ b, f b = some c → Grows b c) : Grows a c := by
  obtain ⟨b, hb, h⟩ := Option.bind_eq_some_iff.mp h
  exact (ho b hb).trans (hf b h)

/-- The four curve adders (2D: `lines` is `addLines2d`): a point group `x` leaves a scene; then two edge groups
and the control points `pts` only grow it.  `h` is the adder's equation as it stands: its `do` block is by
definition this chain of `Option.bind`s. -/
theorem curve_adds {β : Type} {lines : State ℝ → List (β × β) → List Char → Option (State ℝ)}
    (hl : ∀ st st' es c, lines st es c = some st' → Grows st st') {pts : State ℝ → State ℝ}
    (hp : ∀ st, Grows st (pts st)) {st st' : State ℝ} {x : Scad ℝ} {es₁ es₂ : List (β × β)} {c₁ c₂ : List Char}
    (h : ((lines (pushGroup st x) es₁ c₁).bind fun a => (lines a es₂ c₂).bind fun b => some (pts b)) = some st') :
    Adds st st' :=
  (pushGroup_adds st x).trans <| Grows.bind h (fun _ => hl _ _ _ _) fun _ h =>
    Grows.bind h (fun _ => hl _ _ _ _) fun _ h => Option.some.inj h ▸ hp _

theorem addCubic2_adds {st st' : State ℝ} {s c1 c2 e : Pt2 ℝ} {n : Nat} (h : addCubic2 st s c1 c2 e n = some st') :
    Adds st st' :=
  curve_adds addLines2d_grows (fun _ => (push_grows _ _).trans (push_grows _ _)) h
theorem addCubic3_adds {st st' : State ℝ} {s c1 c2 e : Pt3 ℝ} {n : Nat} (h : addCubic3 st s c1 c2 e n = some st') :
    Adds st st' :=
  curve_adds addLines3d_grows (fun _ => (push_grows _ _).trans (push_grows _ _)) h

theorem foldlM_grows {β : Type} (f : State ℝ → β → Option (State ℝ))
    (hf : ∀ st x st', f st x = some st' → Grows st st') :
    ∀ (l : List β) (st st' : State ℝ), l.foldlM f st = some st' → Grows st st'
  | [], st, _, h => Option.some.inj h ▸ Grows.refl st
  | x :: xs, st, st', h =>
    Grows.bind (List.foldlM_cons.symm.trans h) (fun _ => hf st x _) fun b => foldlM_grows f hf xs b st'

/-- Every call but a chain (which may be empty) starts or ends with a `push` / `pushGroup`, which leaves a scene;
the rest only grows it. -/
theorem step_adds {st st' : State ℝ} {op : Op ℝ} (h : step st op = some st') (hop2 : ∀ cs, op ≠ .chain2 cs)
    (hop3 : ∀ cs, op ≠ .chain3 cs) : Adds st st' := by
  cases op with
  | pt2 p c | pt3 p c => exact Option.some.inj h ▸ push_adds _ _
  | pt2s ps c | pt3s ps c => exact Option.some.inj h ▸ pushGroup_adds _ _
  | lines2d es c => exact addLines2d_adds h
  | lines3d es c => exact addLines3d_adds h
  | quad2 s c e n => exact curve_adds addLines2d_grows (fun _ => push_grows _ _) h
  | quad3 s c e n => exact curve_adds addLines3d_grows (fun _ => push_grows _ _) h
  | cubic2 s c1 c2 e n => exact addCubic2_adds h
  | cubic3 s c1 c2 e n => exact addCubic3_adds h
  | chain2 cs => exact absurd rfl (hop2 cs)
  | chain3 cs => exact absurd rfl (hop3 cs)

/-- **C18, one call.** Any call, any arguments: the scene afterwards retains the whole previous scene and the
viewer's constants. -/
theorem step_grows (st st' : State ℝ) (op : Op ℝ) (h : step st op = some st') : Grows st st' := by
  cases op with
  | chain2 cs => exact foldlM_grows _ (fun _ _ _ hc => (addCubic2_adds hc).1) cs st st' h
  | chain3 cs => exact foldlM_grows _ (fun _ _ _ hc => (addCubic3_adds hc).1) cs st st' h
  | _ => exact (step_adds h (fun _ => nofun) fun _ => nofun).1

/-- **C18, histories.** After any sequence of calls from any state, everything in the scene before is still
there, in place. -/
theorem history_grows (h : List (Op ℝ)) (st st' : State ℝ) (hr : h.foldlM step st = some st') :
    Grows st st' :=
  foldlM_grows step (fun a x b hx => step_grows a b x hx) h st st' hr

/-- … so the scene after `h₁ ++ h₂` extends that after `h₁` -/
theorem prefix_retained (pr er : ℝ) (seg : Nat) (h1 h2 : List (Op ℝ)) (st : State ℝ)
    (hr : run pr er seg (h1 ++ h2) = some st) :
    ∃ mid, run pr er seg h1 = some mid ∧ Grows mid st := by
  unfold run at hr ⊢
  rw [List.foldlM_append] at hr
  obtain ⟨mid, hm, hr⟩ := Option.bind_eq_some_iff.mp hr
  exact ⟨mid, hm, history_grows h2 mid st hr⟩

/-- after a successful call other than a chain `into_scad` does not panic -/
theorem step_scene (st st' : State ℝ) (op : Op ℝ) (hop2 : ∀ cs, op ≠ .chain2 cs) (hop3 : ∀ cs, op ≠ .chain3 cs)
    (h : step st op = some st') : (intoScad st').isSome = true :=
  (step_adds h hop2 hop3).2

/-- The `scad` field after `Viewer.push` / `pushGroup`, bodies repeated (`push_scad`, `pushGroup_scad`): those return
a `State`; the `*_item` theorems speak of the scene alone. -/
def withItem (st : State ℝ) (x : Scad ℝ) : Option (Scad ℝ) :=
  some (match st.scad with | some old => Scad.add old x | none => x)
def withGroup (st : State ℝ) (x : Scad ℝ) : Option (Scad ℝ) :=
  some (match st.scad with | some old => union [old, x] | none => union [x])

theorem push_scad (st : State ℝ) (x : Scad ℝ) : (push st x).scad = withItem st x := by
  cases h : st.scad <;> simp [push, withItem, h]
theorem pushGroup_scad (st : State ℝ) (x : Scad ℝ) : (pushGroup st x).scad = withGroup st x := by
  cases h : st.scad <;> simp [pushGroup, withGroup, h]

/-- a point: a coloured sphere at the point, `$fn` = viewer segments -/
theorem addPt3_item (st : State ℝ) (p : Pt3 ℝ) (c : List Char) :
    (addPt3 st p c).scad = withItem st
      (Scad.node (.translate ⟨p.x, p.y, p.z⟩)
        [Scad.node (.color none (some c) none none)
          [Scad.node (.sphere st.pointRadius none none (some st.segments)) []]]) :=
  push_scad st _
theorem addPt2_item (st : State ℝ) (p : Pt2 ℝ) (c : List Char) :
    (addPt2 st p c).scad = withItem st
      (Scad.node (.translate ⟨p.x, p.y, 0⟩)
        [Scad.node (.color none (some c) none none)
          [Scad.node (.sphere st.pointRadius none none (some st.segments)) []]]) :=
  push_scad st _
/-- a point list: one coloured group, one sphere per point, in order (also for the empty list) -/
theorem addPt3s_item (st : State ℝ) (ps : List (Pt3 ℝ)) (c : List Char) :
    (addPt3s st ps c).scad = withGroup st
      (Scad.node (.color none (some c) none (some 1))
        (ps.map fun p => Scad.node (.translate ⟨p.x, p.y, p.z⟩)
          [Scad.node (.sphere st.pointRadius none none (some st.segments)) []])) :=
  pushGroup_scad st _
theorem addPt2s_item (st : State ℝ) (ps : List (Pt2 ℝ)) (c : List Char) :
    (addPt2s st ps c).scad = withGroup st
      (Scad.node (.color none (some c) none (some 1))
        (ps.map fun p => Scad.node (.translate ⟨p.x, p.y, 0⟩)
          [Scad.node (.sphere st.pointRadius none none (some st.segments)) []])) :=
  pushGroup_scad st _
theorem mapM_length {β γ : Type} (f : β → Option γ) : ∀ (l : List β) (ms : List γ),
    l.mapM f = some ms → ms.length = l.length
  | [], ms, h => by cases Option.some.inj h; rfl
  | x :: xs, ms, h => by
    rw [List.mapM_cons] at h
    obtain ⟨y, -, h⟩ := Option.bind_eq_some_iff.mp h
    obtain ⟨ys, hys, h⟩ := Option.bind_eq_some_iff.mp h
    cases Option.some.inj h
    exact congrArg (· + 1) (mapM_length f xs ys hys)

/-- an edge list: one coloured group, one edge mesh per edge, in order -/
theorem addLines3d_item (st st' : State ℝ) (es : List (Pt3 ℝ × Pt3 ℝ)) (c : List Char)
    (h : addLines3d st es c = some st') :
    ∃ meshes, es.mapM (fun e => edgeMesh st e.1 e.2) = some meshes ∧ meshes.length = es.length ∧
      st'.scad = withGroup st (Scad.node (.color none (some c) none (some 1)) meshes) := by
  obtain ⟨ms, hm, rfl⟩ := addLines3d_some h
  exact ⟨ms, hm, mapM_length _ es ms hm, pushGroup_scad st _⟩

/-- where a point of the un-placed edge cylinder ends up -/
noncomputable def placed (start end_ : Pt3 ℝ) (p : Pt3 ℝ) : Pt3 ℝ :=
  Pt3.add (Mt4.mulPt3 (Mt4.lookAtLh start end_ ⟨0, 0, 1⟩) p) start

theorem edgeMesh_points (st : State ℝ) (a b : Pt3 ℝ) (s : Scad ℝ) (h : edgeMesh st a b = some s) :
    ∃ c, Dim3.Polyhedron.cylinder st.edgeRadius (Pt3.sub b a).len st.segments = some c ∧
      s = Scad.node (.polyhedron (c.points.map (placed a b)) c.faces 1) [] := by
  obtain ⟨c, hc, h⟩ := Option.bind_eq_some_iff.mp h
  obtain rfl := Option.some.inj h
  refine ⟨c, hc, congrArg (fun ps => Scad.node (.polyhedron ps c.faces 1) []) ?_⟩
  show Pt3s.translate (Mt4.applyMatrix c.points _) a = _
  rw [C09.applyMatrix_linear _ (C10.lookAt_w a b _), Pt3s.translate, List.map_map]
  rfl

/-- **every edge mesh is a closed surface with valid indices**: a C04 cylinder moved by a matrix and a
translation, faces untouched.  `hr`: C04 `cylinder_closed` goes through the circle's convexity (C07
`circle_convex`), which needs a positive radius. -/
theorem edgeMesh_closed (st : State ℝ) (hr : 0 < st.edgeRadius) (a b : Pt3 ℝ) (s : Scad ℝ)
    (h : edgeMesh st a b = some s) :
    ∃ pts faces, s = Scad.node (.polyhedron pts faces 1) [] ∧
      MeshLemmas.EdgeClosed (Spec.allEdges faces) ∧
      ∀ f ∈ faces, (∀ v ∈ f, v < pts.length) ∧ (f.length = 3 ∨ f.length = 4) := by
  obtain ⟨c, hc, rfl⟩ := edgeMesh_points st a b s h
  exact ⟨_, _, rfl, C04.cylinder_closed _ _ hr _ c hc,
    by simpa only [List.length_map] using C04.cylinder_valid _ _ _ c hc⟩

/-- … and satisfies the oracle's full `closedOriented` predicate -/
theorem edgeMesh_closedOriented (st : State ℝ) (hr : 0 < st.edgeRadius) (a b : Pt3 ℝ) (s : Scad ℝ)
    (h : edgeMesh st a b = some s) :
    ∃ pts faces, s = Scad.node (.polyhedron pts faces 1) [] ∧ Spec.closedOriented pts.length faces = true := by
  obtain ⟨c, hc, rfl⟩ := edgeMesh_points st a b s h
  exact ⟨_, _, rfl, by simpa only [List.length_map] using C04.cylinder_closedOriented _ _ hr _ c hc⟩

/-- the placed cylinder's axis, for every edge with distinct ends -/
theorem axis_of_frame (start end_ : Pt3 ℝ) (hne : Pt3.sub end_ start ≠ ⟨0, 0, 0⟩) :
    placed start end_ ⟨0, 0, 0⟩ = start ∧ placed start end_ ⟨0, 0, (Pt3.sub end_ start).len⟩ = end_ := by
  have hL : (Pt3.sub end_ start).len ≠ 0 := (Pt3.len_pos hne).ne'
  have hz := (C10.lookAt_upZ start end_ hne).2
  rw [C10.mulPt3_ez] at hz
  -- a Z-axis point goes to `start` plus its height times the frame's third column
  have hcol (z : ℝ) : placed start end_ ⟨0, 0, z⟩ = Pt3.add (Pt3.smul (Pt3.sub end_ start).normalized z) start := by
    rw [placed, C10.mulPt3_columns, hz]
    simp only [Pt3.add, Pt3.smul, mul_zero, zero_add]
  have hd : Pt3.smul (Pt3.sub end_ start).normalized (Pt3.sub end_ start).len = Pt3.sub end_ start := by
    simp only [Pt3.smul, Pt3.normalized_comp, div_mul_cancel₀ _ hL]
  rw [hcol, hcol, hd]
  constructor <;> simp only [Pt3.add, Pt3.smul, Pt3.sub, mul_zero, zero_add, sub_add_cancel]

/-- **the edge cylinder runs from start to end of the edge**: bottom centre (height 0) placed at `start`, top
centre (height `|end − start|`) at `end` — for every non-vertical direction … -/
theorem edge_axis (start end_ : Pt3 ℝ) (hne : Pt3.sub end_ start ≠ ⟨0, 0, 0⟩)
    (hup : Pt3.cross ⟨0, 0, 1⟩ (Pt3.normalized (Pt3.sub end_ start)) ≠ ⟨0, 0, 0⟩) :
    placed start end_ ⟨0, 0, 0⟩ = start ∧ placed start end_ ⟨0, 0, (Pt3.sub end_ start).len⟩ = end_ :=
  axis_of_frame start end_ hne

/-- … and for vertical edges, upwards or downwards -/
theorem edge_axis_vertical (start end_ : Pt3 ℝ) (hx : end_.x = start.x) (hy : end_.y = start.y)
    (hz : end_.z ≠ start.z) :
    placed start end_ ⟨0, 0, 0⟩ = start ∧ placed start end_ ⟨0, 0, (Pt3.sub end_ start).len⟩ = end_ :=
  axis_of_frame start end_ fun h => sub_ne_zero.mpr hz (congrArg Pt3.z h)


end ScadVerif.C18
