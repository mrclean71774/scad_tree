/-
A theorem of C10 restated about the *transcribed source*, through `Tie/Math.lean`.
-/
import ScadVerif.Props.C10
import ScadVerif.Tie.Math
namespace ScadVerif.SrcC10
open ScadVerif

theorem look_at_same (p up : Pt3 ℝ) : Src.Mt4.look_at_matrix_lh p p up = Mt4.identity := by
  rw [Tie.Mt4_look_at_matrix_lh]
  exact C10.lookAtLh_same p up

end ScadVerif.SrcC10
