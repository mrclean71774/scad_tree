/-
C10 — all rotation routes agree and follow the right-hand rule.

Every rotation of the model is a core taking the pair (c, s); the degree-taking functions are that core
at (dcos d, dsin d).  The algebra (each route is the reference rotation of Spec/Rotation.lean, `rot_vec`
is Rodrigues' formula, isometry, composition, inverse): over a commutative ring with c² + s² = 1, then at
degrees over ℝ.  Right-hand rule: for the reference rotations at (c, s) = (0, 1), which `quarter_turn` says is
90°; no theorem composes the two with `routes_agree_*`.  `look_at_matrix_lh` over ℝ: linear part a proper
rotation taking +Z to the viewing direction — `lookAt_rotation` (any `up` not parallel to it), `lookAt_upZ` (the
library's own up = +Z, every direction).
-/
import ScadVerif.Props.C11
import ScadVerif.Spec.Rotation
set_option linter.unusedSectionVars false
namespace ScadVerif.C10
open ScadVerif

section Ring
variable {α : Type} [CommRing α]

theorem rotated2_spec (p : Pt2 α) (c s : α) : p.rotatedCS c s = Spec.rot2 c s p := by
  ext <;> simp only [Pt2.rotatedCS, Spec.rot2] <;> ring
theorem rotatedX_spec (p : Pt3 α) (c s : α) : p.rotatedXCS c s = Spec.rotX c s p := by
  ext <;> simp only [Pt3.rotatedXCS, Spec.rotX] <;> ring
theorem rotatedY_spec (p : Pt3 α) (c s : α) : p.rotatedYCS c s = Spec.rotY c s p := by
  ext <;> simp only [Pt3.rotatedYCS, Spec.rotY] <;> ring
theorem rotatedZ_spec (p : Pt3 α) (c s : α) : p.rotatedZCS c s = Spec.rotZ c s p := by
  ext <;> simp only [Pt3.rotatedZCS, Spec.rotZ] <;> ring

theorem mulPt3_columns (m : Mt4 α) (p : Pt3 α) :
    Mt4.mulPt3 m p = Pt3.add (Pt3.add (Pt3.smul m.x.asPt3 p.x) (Pt3.smul m.y.asPt3 p.y)) (Pt3.smul m.z.asPt3 p.z) := by
  ext <;> simp only [Mt4.mulPt3, Mt4.transposed, Pt3.dot, Pt4.asPt3, Pt3.add, Pt3.smul]
theorem mulVec_direction (m : Mt4 α) (p : Pt3 α) :
    (Mt4.mulVec m (p.asPt4 0)).asPt3 = Mt4.mulPt3 m p := by
  ext <;> simp only [Mt4.mulVec, Mt4.mulPt3, Mt4.transposed, Pt4.dot4, Pt3.dot, Pt4.asPt3, Pt3.asPt4, mul_zero, add_zero]
/-- suffixes `_ex`, `_ey`, `_ez`, here and below: at the basis vector (argument or axis) -/
theorem mulPt3_ex (m : Mt4 α) : Mt4.mulPt3 m ⟨1, 0, 0⟩ = m.x.asPt3 := by
  simp only [mulPt3_columns, Pt3.add, Pt3.smul, mul_one, mul_zero, add_zero]
theorem mulPt3_ez (m : Mt4 α) : Mt4.mulPt3 m ⟨0, 0, 1⟩ = m.z.asPt3 := by
  simp only [mulPt3_columns, Pt3.add, Pt3.smul, mul_one, mul_zero, zero_add]

theorem rotXMatrix_spec (p : Pt3 α) (c s w : α) :
    (Mt4.mulVec (Mt4.rotXCS c s) (p.asPt4 w)).asPt3 = Spec.rotX c s p := by
  mt4_ext [Mt4.rotXCS, Pt3.asPt4, Pt4.asPt3, Spec.rotX]
theorem rotYMatrix_spec (p : Pt3 α) (c s w : α) :
    (Mt4.mulVec (Mt4.rotYCS c s) (p.asPt4 w)).asPt3 = Spec.rotY c s p := by
  mt4_ext [Mt4.rotYCS, Pt3.asPt4, Pt4.asPt3, Spec.rotY]
theorem rotZMatrix_spec (p : Pt3 α) (c s w : α) :
    (Mt4.mulVec (Mt4.rotZCS c s) (p.asPt4 w)).asPt3 = Spec.rotZ c s p := by
  mt4_ext [Mt4.rotZCS, Pt3.asPt4, Pt4.asPt3, Spec.rotZ]
theorem rot_matrix_keeps_w (p : Pt3 α) (c s w : α) :
    (Mt4.mulVec (Mt4.rotXCS c s) (p.asPt4 w)).w = w ∧ (Mt4.mulVec (Mt4.rotYCS c s) (p.asPt4 w)).w = w ∧
    (Mt4.mulVec (Mt4.rotZCS c s) (p.asPt4 w)).w = w := by
  refine ⟨?_, ?_, ?_⟩ <;>
    simp only [Mt4.mulVec, Mt4.transposed, Mt4.rotXCS, Mt4.rotYCS, Mt4.rotZCS, Pt4.dot4, Pt3.asPt4] <;> ring
theorem rotXMatrix_pt3 (p : Pt3 α) (c s : α) : Mt4.mulPt3 (Mt4.rotXCS c s) p = Spec.rotX c s p := by
  rw [← mulVec_direction, rotXMatrix_spec]
theorem rotYMatrix_pt3 (p : Pt3 α) (c s : α) : Mt4.mulPt3 (Mt4.rotYCS c s) p = Spec.rotY c s p := by
  rw [← mulVec_direction, rotYMatrix_spec]
theorem rotZMatrix_pt3 (p : Pt3 α) (c s : α) : Mt4.mulPt3 (Mt4.rotZCS c s) p = Spec.rotZ c s p := by
  rw [← mulVec_direction, rotZMatrix_spec]

theorem rotVec_rodrigues (k p : Pt3 α) (c s w : α) :
    (Mt4.mulVec (Mt4.rotVecCS k.x k.y k.z c s) (p.asPt4 w)).asPt3 = Spec.rodrigues k c s p := by
  mt4_ext [Mt4.rotVecCS, Pt3.asPt4, Pt4.asPt3, Spec.rodrigues]
theorem rotVec_ex (c s : α) : Mt4.rotVecCS 1 0 0 c s = Mt4.rotXCS c s := by
  mt4_ext [Mt4.rotVecCS, Mt4.rotXCS]
theorem rotVec_ey (c s : α) : Mt4.rotVecCS 0 1 0 c s = Mt4.rotYCS c s := by
  mt4_ext [Mt4.rotVecCS, Mt4.rotYCS]
theorem rotVec_ez (c s : α) : Mt4.rotVecCS 0 0 1 c s = Mt4.rotZCS c s := by
  mt4_ext [Mt4.rotVecCS, Mt4.rotZCS]

/-! right-hand rule, at the quarter turn (c, s) = (0, 1) -/
theorem right_hand_z : Spec.rotZ (0 : α) 1 ⟨1, 0, 0⟩ = ⟨0, 1, 0⟩ := by ext <;> simp [Spec.rotZ]
theorem right_hand_x : Spec.rotX (0 : α) 1 ⟨0, 1, 0⟩ = ⟨0, 0, 1⟩ := by ext <;> simp [Spec.rotX]
theorem right_hand_y : Spec.rotY (0 : α) 1 ⟨0, 0, 1⟩ = ⟨1, 0, 0⟩ := by ext <;> simp [Spec.rotY]

theorem rot2_dot (p q : Pt2 α) (c s : α) (h : c * c + s * s = 1) :
    (Spec.rot2 c s p).dot (Spec.rot2 c s q) = p.dot q := by
  simp only [Spec.rot2, Pt2.dot]; linear_combination (p.x * q.x + p.y * q.y) * h
theorem rot2_comp (p : Pt2 α) (c₁ s₁ c₂ s₂ : α) :
    Spec.rot2 c₁ s₁ (Spec.rot2 c₂ s₂ p) = Spec.rot2 (c₁ * c₂ - s₁ * s₂) (s₁ * c₂ + c₁ * s₂) p := by
  ext <;> simp only [Spec.rot2] <;> ring
theorem rot2_inv (p : Pt2 α) (c s : α) (h : c * c + s * s = 1) : Spec.rot2 c (-s) (Spec.rot2 c s p) = p := by
  ext <;> simp only [Spec.rot2]
  · linear_combination p.x * h
  · linear_combination p.y * h

theorem rodrigues_dot (k p q : Pt3 α) (c s : α) (h : c * c + s * s = 1)
    (hk : k.x * k.x + k.y * k.y + k.z * k.z = 1) :
    (Spec.rodrigues k c s p).dot (Spec.rodrigues k c s q) = p.dot q := by
  simp only [Spec.rodrigues, Pt3.dot]
  -- with P = p·q and K = (k·p)(k·q) the difference is (c²+s²−1)(P−K) + (|k|²−1)(s²P + (1−c)²K)
  linear_combination
    (p.x * q.x + p.y * q.y + p.z * q.z - (k.x * p.x + k.y * p.y + k.z * p.z) * (k.x * q.x + k.y * q.y + k.z * q.z)) * h +
    (s * s * (p.x * q.x + p.y * q.y + p.z * q.z) +
      (1 - c) ^ 2 * ((k.x * p.x + k.y * p.y + k.z * p.z) * (k.x * q.x + k.y * q.y + k.z * q.z))) * hk
/-- with K = k×· and P = k(k·), K² = P − |k|² and P² = |k|²P, so the two sides differ by
(|k|²−1)(−s₁s₂ + (1−c₁)(1−c₂)P) -/
theorem rodrigues_comp (k p : Pt3 α) (c₁ s₁ c₂ s₂ : α) (hk : k.x * k.x + k.y * k.y + k.z * k.z = 1) :
    Spec.rodrigues k c₁ s₁ (Spec.rodrigues k c₂ s₂ p) =
      Spec.rodrigues k (c₁ * c₂ - s₁ * s₂) (s₁ * c₂ + c₁ * s₂) p := by
  ext <;> simp only [Spec.rodrigues]
  · linear_combination (-(s₁ * s₂ * p.x) + (1 - c₁) * (1 - c₂) * (k.x * p.x + k.y * p.y + k.z * p.z) * k.x) * hk
  · linear_combination (-(s₁ * s₂ * p.y) + (1 - c₁) * (1 - c₂) * (k.x * p.x + k.y * p.y + k.z * p.z) * k.y) * hk
  · linear_combination (-(s₁ * s₂ * p.z) + (1 - c₁) * (1 - c₂) * (k.x * p.x + k.y * p.y + k.z * p.z) * k.z) * hk
theorem rodrigues_inv (k p : Pt3 α) (c s : α) (h : c * c + s * s = 1)
    (hk : k.x * k.x + k.y * k.y + k.z * k.z = 1) : Spec.rodrigues k c (-s) (Spec.rodrigues k c s p) = p := by
  rw [rodrigues_comp k p _ _ _ _ hk, show c * c - -s * s = 1 by linear_combination h,
    show -s * c + c * s = 0 by ring]
  ext <;> simp only [Spec.rodrigues] <;> ring
/-- the rotations about X, Y, Z are Rodrigues' about the basis vectors: not by unfolding but back through the matrix
lemmas, which hold for every `w`; `0` is an arbitrary choice -/
theorem rodrigues_ex (p : Pt3 α) (c s : α) : Spec.rodrigues ⟨1, 0, 0⟩ c s p = Spec.rotX c s p := by
  rw [← rotVec_rodrigues _ p c s 0, rotVec_ex, rotXMatrix_spec]
theorem rodrigues_ey (p : Pt3 α) (c s : α) : Spec.rodrigues ⟨0, 1, 0⟩ c s p = Spec.rotY c s p := by
  rw [← rotVec_rodrigues _ p c s 0, rotVec_ey, rotYMatrix_spec]
theorem rodrigues_ez (p : Pt3 α) (c s : α) : Spec.rodrigues ⟨0, 0, 1⟩ c s p = Spec.rotZ c s p := by
  rw [← rotVec_rodrigues _ p c s 0, rotVec_ez, rotZMatrix_spec]


/-- the frame (s, f×s, f) of unit vectors s ⟂ f is a proper rotation -/
theorem frame_rotation (s f : Pt3 α) (hs : s.dot s = 1) (hf : f.dot f = 1) (hsf : s.dot f = 0) :
    let u := f.cross s
    u.dot u = 1 ∧ s.dot u = 0 ∧ u.dot f = 0 ∧ s.dot (u.cross f) = 1 := by
  simp only [Pt3.dot, Pt3.cross] at *
  -- goals 1 and 4 are Lagrange's identity |f × s|² = |f|²|s|² − (f·s)²
  refine ⟨?_, ?_, ?_, ?_⟩
  · linear_combination (s.x * s.x + s.y * s.y + s.z * s.z) * hf + hs - (s.x * f.x + s.y * f.y + s.z * f.z) * hsf
  · ring
  · ring
  · linear_combination (s.x * s.x + s.y * s.y + s.z * s.z) * hf + hs - (s.x * f.x + s.y * f.y + s.z * f.z) * hsf

end Ring

/-! the routes as first published disagree at the quarter turn -/

example : Pt3.rotatedYCSLegacy (⟨0, 0, 1⟩ : Pt3 Int) 0 1 = ⟨-1, 0, 0⟩ := by decide
example : Spec.rotY (0 : Int) 1 ⟨0, 0, 1⟩ = ⟨1, 0, 0⟩ := by decide
example : (Mt4.mulVec (Mt4.rotVecCSLegacy (0 : Int) 0 1 0 1) ⟨0, 1, 0, 0⟩).asPt3 = ⟨-1, 0, 0⟩ ∧
    (Mt4.mulVec (Mt4.rotVecCSLegacy (0 : Int) 0 1 0 1) ⟨1, 0, 0, 0⟩).asPt3 = ⟨0, 1, -1⟩ := by decide
example : Spec.rotZ (0 : Int) 1 ⟨1, 0, 0⟩ = ⟨0, 1, 0⟩ := by decide

section Real
open Real

/-- the four routes about one axis: `rotated_x`, `rot_x_matrix` through `Mt4 * Pt4` and through
`Mt4 * Pt3`, `rot_vec` about e_x -/
theorem routes_agree_x (p : Pt3 ℝ) (d : ℝ) :
    p.rotatedX d = Spec.rotX (dcos d) (dsin d) p ∧
    (Mt4.mulVec (Mt4.rotXMatrix d) (p.asPt4 1)).asPt3 = Spec.rotX (dcos d) (dsin d) p ∧
    Mt4.mulPt3 (Mt4.rotXMatrix d) p = Spec.rotX (dcos d) (dsin d) p ∧
    (Mt4.mulVec (Mt4.rotVec 1 0 0 d) (p.asPt4 1)).asPt3 = Spec.rotX (dcos d) (dsin d) p :=
  ⟨rotatedX_spec _ _ _, rotXMatrix_spec _ _ _ _, rotXMatrix_pt3 _ _ _, by
    rw [Mt4.rotVec, rotVec_ex]; exact rotXMatrix_spec _ _ _ _⟩
theorem routes_agree_y (p : Pt3 ℝ) (d : ℝ) :
    p.rotatedY d = Spec.rotY (dcos d) (dsin d) p ∧
    (Mt4.mulVec (Mt4.rotYMatrix d) (p.asPt4 1)).asPt3 = Spec.rotY (dcos d) (dsin d) p ∧
    Mt4.mulPt3 (Mt4.rotYMatrix d) p = Spec.rotY (dcos d) (dsin d) p ∧
    (Mt4.mulVec (Mt4.rotVec 0 1 0 d) (p.asPt4 1)).asPt3 = Spec.rotY (dcos d) (dsin d) p :=
  ⟨rotatedY_spec _ _ _, rotYMatrix_spec _ _ _ _, rotYMatrix_pt3 _ _ _, by
    rw [Mt4.rotVec, rotVec_ey]; exact rotYMatrix_spec _ _ _ _⟩
theorem routes_agree_z (p : Pt3 ℝ) (d : ℝ) :
    p.rotatedZ d = Spec.rotZ (dcos d) (dsin d) p ∧
    (Mt4.mulVec (Mt4.rotZMatrix d) (p.asPt4 1)).asPt3 = Spec.rotZ (dcos d) (dsin d) p ∧
    Mt4.mulPt3 (Mt4.rotZMatrix d) p = Spec.rotZ (dcos d) (dsin d) p ∧
    (Mt4.mulVec (Mt4.rotVec 0 0 1 d) (p.asPt4 1)).asPt3 = Spec.rotZ (dcos d) (dsin d) p :=
  ⟨rotatedZ_spec _ _ _, rotZMatrix_spec _ _ _ _, rotZMatrix_pt3 _ _ _, by
    rw [Mt4.rotVec, rotVec_ez]; exact rotZMatrix_spec _ _ _ _⟩
theorem routes_agree_2d (p : Pt2 ℝ) (d : ℝ) : p.rotated d = Spec.rot2 (dcos d) (dsin d) p :=
  rotated2_spec _ _ _
/-- `Pt3s::rotate_x/y/z`, the list forms: the reference rotations pointwise (each point goes through `rotated_*`) -/
theorem list_forms (ps : List (Pt3 ℝ)) (d : ℝ) :
    Pt3s.rotateX ps d = ps.map (Spec.rotX (dcos d) (dsin d)) ∧
    Pt3s.rotateY ps d = ps.map (Spec.rotY (dcos d) (dsin d)) ∧
    Pt3s.rotateZ ps d = ps.map (Spec.rotZ (dcos d) (dsin d)) := by
  refine ⟨?_, ?_, ?_⟩ <;> apply List.map_congr_left <;> intro p _
  · exact rotatedX_spec _ _ _
  · exact rotatedY_spec _ _ _
  · exact rotatedZ_spec _ _ _

/-- the pair at which `right_hand_*` are stated -/
theorem quarter_turn : dcos (90 : ℝ) = 0 ∧ dsin (90 : ℝ) = 1 := by
  have e : toRad (90 : ℝ) = π / 2 := by rw [toRad_real]; ring
  simp [dcos, dsin, e]

theorem rot_add_z (p : Pt3 ℝ) (a b : ℝ) : (p.rotatedZ b).rotatedZ a = p.rotatedZ (a + b) := by
  simp only [Pt3.rotatedZ, rotatedZ_spec, ← rodrigues_ez, dcos_add, dsin_add]
  exact rodrigues_comp _ _ _ _ _ _ (by norm_num)
theorem rot_add_x (p : Pt3 ℝ) (a b : ℝ) : (p.rotatedX b).rotatedX a = p.rotatedX (a + b) := by
  simp only [Pt3.rotatedX, rotatedX_spec, ← rodrigues_ex, dcos_add, dsin_add]
  exact rodrigues_comp _ _ _ _ _ _ (by norm_num)
theorem rot_add_y (p : Pt3 ℝ) (a b : ℝ) : (p.rotatedY b).rotatedY a = p.rotatedY (a + b) := by
  simp only [Pt3.rotatedY, rotatedY_spec, ← rodrigues_ey, dcos_add, dsin_add]
  exact rodrigues_comp _ _ _ _ _ _ (by norm_num)
theorem rot_add_2d (p : Pt2 ℝ) (a b : ℝ) : (p.rotated b).rotated a = p.rotated (a + b) := by
  simp only [Pt2.rotated, rotated2_spec, rot2_comp, dcos_add, dsin_add]
theorem rot_neg_z (p : Pt3 ℝ) (a : ℝ) : (p.rotatedZ a).rotatedZ (-a) = p := by
  simp only [Pt3.rotatedZ, rotatedZ_spec, ← rodrigues_ez, dcos_neg, dsin_neg]
  exact rodrigues_inv _ _ _ _ (cs_unit a) (by norm_num)
theorem rot_neg_x (p : Pt3 ℝ) (a : ℝ) : (p.rotatedX a).rotatedX (-a) = p := by
  simp only [Pt3.rotatedX, rotatedX_spec, ← rodrigues_ex, dcos_neg, dsin_neg]
  exact rodrigues_inv _ _ _ _ (cs_unit a) (by norm_num)
theorem rot_neg_y (p : Pt3 ℝ) (a : ℝ) : (p.rotatedY a).rotatedY (-a) = p := by
  simp only [Pt3.rotatedY, rotatedY_spec, ← rodrigues_ey, dcos_neg, dsin_neg]
  exact rodrigues_inv _ _ _ _ (cs_unit a) (by norm_num)
theorem rot_neg_2d (p : Pt2 ℝ) (a : ℝ) : (p.rotated a).rotated (-a) = p := by
  simp only [Pt2.rotated, rotated2_spec, dcos_neg, dsin_neg]; exact rot2_inv _ _ _ (cs_unit a)
theorem rot_isometry (p q : Pt3 ℝ) (d : ℝ) :
    (p.rotatedX d).dot (q.rotatedX d) = p.dot q ∧ (p.rotatedY d).dot (q.rotatedY d) = p.dot q ∧
    (p.rotatedZ d).dot (q.rotatedZ d) = p.dot q := by
  simp only [Pt3.rotatedX, Pt3.rotatedY, Pt3.rotatedZ, rotatedX_spec, rotatedY_spec, rotatedZ_spec,
    ← rodrigues_ex, ← rodrigues_ey, ← rodrigues_ez]
  exact ⟨rodrigues_dot _ _ _ _ _ (cs_unit d) (by norm_num), rodrigues_dot _ _ _ _ _ (cs_unit d) (by norm_num),
    rodrigues_dot _ _ _ _ _ (cs_unit d) (by norm_num)⟩
theorem rotVec_isometry (k p q : Pt3 ℝ) (d : ℝ) (hk : k.x * k.x + k.y * k.y + k.z * k.z = 1) :
    (Mt4.mulVec (Mt4.rotVec k.x k.y k.z d) (p.asPt4 1)).asPt3.dot
      (Mt4.mulVec (Mt4.rotVec k.x k.y k.z d) (q.asPt4 1)).asPt3 = p.dot q := by
  rw [Mt4.rotVec, rotVec_rodrigues, rotVec_rodrigues]
  exact rodrigues_dot _ _ _ _ _ (cs_unit d) hk


/-! ### look_at_matrix_lh -/

def cols (m : Mt4 ℝ) : Spec.Mt4Cols ℝ := ⟨m.x.asPt3, m.y.asPt3, m.z.asPt3⟩

theorem eqb_zero_iff (v : Pt3 ℝ) : (Cmp.eqb v.x 0 && Cmp.eqb v.y 0 && Cmp.eqb v.z 0) = true ↔ v = ⟨0, 0, 0⟩ := by
  simp [Pt3.ext_iff, and_assoc]

/-- `lookAtLhLegacy` is the function without the guard for `eye = center`, where it normalizes the
zero vector -/
theorem lookAtLh_of_ne (eye center up : Pt3 ℝ) (hne : Pt3.sub center eye ≠ ⟨0, 0, 0⟩) :
    Mt4.lookAtLh eye center up = Mt4.lookAtLhLegacy eye center up := by
  unfold Mt4.lookAtLh Mt4.lookAtLhLegacy
  -- reduces the `let`s, exposing the guard's `if`
  simp only []
  rw [if_neg (mt (eqb_zero_iff _).mp hne)]
theorem lookAtLh_same (p up : Pt3 ℝ) : Mt4.lookAtLh p p up = Mt4.identity := by
  unfold Mt4.lookAtLh
  simp [Pt3.sub]

/-- `look_at_matrix_lh` has no translation part in the slots `apply_matrix` reads -/
theorem lookAt_w (eye center up : Pt3 ℝ) :
    (Mt4.lookAtLh eye center up).w.x = 0 ∧ (Mt4.lookAtLh eye center up).w.y = 0 ∧
      (Mt4.lookAtLh eye center up).w.z = 0 := by
  unfold Mt4.lookAtLh
  simp only []
  split
  · simp [Mt4.identity]
  · split
    · split <;> simp [Mt4.rotXMatrix, Mt4.rotXCS, Mt4.identity, Mt4.transposed]
    · simp

/-- at `lit 180`, as `lookAtLh` writes the angle -/
theorem half_turn : dcos (lit 180 : ℝ) = -1 ∧ dsin (lit 180 : ℝ) = 0 := by
  have e : toRad (180 : ℝ) = π := by rw [toRad_real]; field_simp
  simp [dcos, dsin, e]

/-- the translation −s·eye, −u·eye, −f·eye sits in the columns' `w` entries, the bottom row: the source does
not transpose this matrix -/
theorem lookAtLh_eq (eye center up : Pt3 ℝ) (hne : Pt3.sub center eye ≠ ⟨0, 0, 0⟩) :
    Mt4.lookAtLh eye center up =
      let f := (Pt3.sub center eye).normalized
      if Pt3.cross up f = ⟨0, 0, 0⟩ then (if Pt3.dot up f < 0 then Mt4.rotXCS (-1) 0 else Mt4.identity)
      else
        let s := (Pt3.cross up f).normalized
        let u := Pt3.cross f s
        ⟨⟨s.x, s.y, s.z, -(Pt3.dot s eye)⟩, ⟨u.x, u.y, u.z, -(Pt3.dot u eye)⟩,
          ⟨f.x, f.y, f.z, -(Pt3.dot f eye)⟩, ⟨0, 0, 0, 1⟩⟩ := by
  rw [lookAtLh_of_ne eye center up hne]
  unfold Mt4.lookAtLhLegacy
  simp only [eqb_zero_iff, ltb_real, Mt4.rotXMatrix, half_turn]

/-- up not parallel to the direction f: a proper rotation taking +Z to f and +X to a vector perpendicular to up -/
theorem lookAt_rotation (eye center up : Pt3 ℝ)
    (hne : Pt3.sub center eye ≠ ⟨0, 0, 0⟩)
    (hup : Pt3.cross up (Pt3.normalized (Pt3.sub center eye)) ≠ ⟨0, 0, 0⟩) :
    let m := Mt4.lookAtLh eye center up
    let f := Pt3.normalized (Pt3.sub center eye)
    Spec.IsProperRotation (cols m) ∧ Mt4.mulPt3 m ⟨0, 0, 1⟩ = f ∧ (Mt4.mulPt3 m ⟨1, 0, 0⟩).dot up = 0 := by
  intro m f
  have hm : m = _ := (lookAtLh_eq eye center up hne).trans (if_neg hup)
  set s := (Pt3.cross up f).normalized with hs
  have hf1 : f.dot f = 1 := Pt3.normalized_len2 hne
  have hs1 : s.dot s = 1 := Pt3.normalized_len2 hup
  have hsf : s.dot f = 0 := by
    rw [hs, Pt3.normalized_dot, C11.pt3_cross_perp_right, zero_div]
  have hsu : s.dot up = 0 := by
    rw [hs, Pt3.normalized_dot, C11.pt3_cross_perp_left, zero_div]
  obtain ⟨hu1, hsu', huf, hdet⟩ := frame_rotation s f hs1 hf1 hsf
  refine ⟨?_, ?_, ?_⟩
  · rw [hm]
    exact ⟨hs1, hu1, hf1, hsu', hsf, huf, hdet⟩
  · rw [mulPt3_ez, hm]; rfl
  · rw [mulPt3_ex, hm]; exact hsu

/-- up × f = 0 for the library's own up = +Z: f is (0, 0, ±1); the branch returns the identity or the half turn
about X -/
theorem lookAt_parallel (eye center : Pt3 ℝ) (hne : Pt3.sub center eye ≠ ⟨0, 0, 0⟩)
    (hup : Pt3.cross ⟨0, 0, 1⟩ (Pt3.normalized (Pt3.sub center eye)) = ⟨0, 0, 0⟩) :
    let m := Mt4.lookAtLh eye center ⟨0, 0, 1⟩
    let f := Pt3.normalized (Pt3.sub center eye)
    Spec.IsProperRotation (cols m) ∧ Mt4.mulPt3 m ⟨0, 0, 1⟩ = f := by
  intro m f
  -- (0, 0, 1) × f = (−f.y, f.x, 0)
  obtain ⟨z, hf⟩ : ∃ z, f = ⟨0, 0, z⟩ :=
    ⟨f.z, Pt3.ext (by simpa [Pt3.cross] using congrArg Pt3.y hup) (by simpa [Pt3.cross] using congrArg Pt3.x hup) rfl⟩
  have hz1 : z * z = 1 := by
    have h1 : f.dot f = 1 := Pt3.normalized_len2 hne
    simpa [hf, Pt3.dot] using h1
  have hm : m = if z < 0 then Mt4.rotXCS (-1) 0 else Mt4.identity := by
    refine (lookAtLh_eq eye center ⟨0, 0, 1⟩ hne).trans ((if_pos hup).trans ?_)
    show (if Pt3.dot ⟨0, 0, 1⟩ f < 0 then _ else _) = _
    rw [hf]; simp [Pt3.dot]
  rw [mulPt3_ez, hm, hf]
  rcases mul_self_eq_one_iff.mp hz1 with rfl | rfl
  · rw [if_neg (by norm_num)]
    exact ⟨by simp [cols, Spec.IsProperRotation, Mt4.identity, Pt4.asPt3, Pt3.dot, Pt3.cross],
      by simp [Mt4.identity, Pt4.asPt3]⟩
  · rw [if_pos (by norm_num)]
    exact ⟨by simp [cols, Spec.IsProperRotation, Mt4.rotXCS, Mt4.transposed, Pt4.asPt3, Pt3.dot, Pt3.cross],
      by simp [Mt4.rotXCS, Mt4.transposed, Pt4.asPt3]⟩

/-- up = +Z, any direction: a proper rotation taking +Z to the unit vector towards `center` -/
theorem lookAt_upZ (eye center : Pt3 ℝ) (hne : Pt3.sub center eye ≠ ⟨0, 0, 0⟩) :
    let m := Mt4.lookAtLh eye center ⟨0, 0, 1⟩
    Spec.IsProperRotation (cols m) ∧ Mt4.mulPt3 m ⟨0, 0, 1⟩ = Pt3.normalized (Pt3.sub center eye) := by
  by_cases hup : Pt3.cross ⟨0, 0, 1⟩ (Pt3.normalized (Pt3.sub center eye)) = ⟨0, 0, 0⟩
  · exact lookAt_parallel eye center hne hup
  · exact ⟨(lookAt_rotation eye center _ hne hup).1, (lookAt_rotation eye center _ hne hup).2.1⟩

/-- the vertical directions, which `lookAt_rotation` with up = +Z leaves out -/
theorem lookAt_vertical (eye center : Pt3 ℝ) (hx : center.x = eye.x) (hy : center.y = eye.y)
    (hz : center.z ≠ eye.z) :
    let m := Mt4.lookAtLh eye center ⟨0, 0, 1⟩
    let f := Pt3.normalized (Pt3.sub center eye)
    Spec.IsProperRotation (cols m) ∧ Mt4.mulPt3 m ⟨0, 0, 1⟩ = f :=
  lookAt_upZ eye center fun h0 => hz (sub_eq_zero.mp (congrArg Pt3.z h0))

/-- `hne` of `lookAt_rotation` at eye = 0, center = +X; up = +Z then meets `hup` (up × f = +Y), not exhibited -/
example : Pt3.sub (⟨1, 0, 0⟩ : Pt3 ℝ) ⟨0, 0, 0⟩ ≠ ⟨0, 0, 0⟩ := by
  intro h; have := congrArg Pt3.x h; simp [Pt3.sub] at this

end Real
end ScadVerif.C10
