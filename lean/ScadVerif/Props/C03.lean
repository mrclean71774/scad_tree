/-
C03 — triangulation tiles every simple polygon exactly.

About `Tri.triangulate` / `triangulate2d` / `triangulate2dRev` of Model/Tri.lean, the model of
scad_tree::triangulate (same scan order, same predicates), over ℝ; equal to the transcribed source by Tie/Tri.lean
and Tie/TriLoop.lean.

For every vertex list, simple or not, by the loop rule of Lemmas/TriLemmas.lean: valid indices, at most n-2
triangles, each turning as the polygon does at its left-most vertex, area conservation at every step; for complete
runs (n-2 triangles), areas summing to the polygon's and the edge half of the tiling certificate.  On strictly
convex polygons, either direction, the loop completes and emits the fan from the last vertex: all of this holds
without a hypothesis.

PARTIAL: that the loop completes on every *simple* polygon (Meisters' two-ears theorem plus soundness of the
later-vertices-only scan) and that the certificate implies a tiling are plane topology, cited, not formalised; the
oracle run decides them on the implementation.
-/
import ScadVerif.Lemmas.TriLemmas
import ScadVerif.Lemmas.MeshLemmas
namespace ScadVerif.C03
open ScadVerif ScadVerif.Tri ScadVerif.TriLemmas ScadVerif.Spec

theorem isCcw_iff (a b c : Pt2 ℝ) : isCcw a b c = true ↔ 0 < Tri.cross3 a b c := by
  simp [isCcw]

/-- labels of a polygon refer to positions of a vertex list -/
def Consistent (vs : List (Pt2 ℝ)) (poly : Poly ℝ) : Prop :=
  ∀ v ∈ poly, v.1 < vs.length ∧ vs.getD v.1 d0 = v.2

theorem indexed_consistent (vs : List (Pt2 ℝ)) : Consistent vs (indexed vs) := by
  intro v hv
  obtain ⟨i, hi, rfl⟩ := List.mem_iff_getElem.mp hv
  have hi' : i < vs.length := by rwa [indexed_length] at hi
  simp [indexed, List.getD_eq_getElem?_getD, hi']

theorem reverse_consistent (vs : List (Pt2 ℝ)) (poly : Poly ℝ) (h : Consistent vs poly) :
    Consistent vs poly.reverse := fun v hv => h v (List.mem_reverse.mp hv)

noncomputable def run (poly : Poly ℝ) : List (Tri3 ℝ) × Poly ℝ :=
  clipRun poly.length poly (refCcw poly) []

theorem triangulate_eq (poly : Poly ℝ) : triangulate poly = labels (run poly).1 :=
  clip_nil poly.length poly (refCcw poly)

/-- **C03, indices.** Emitted indices are positions of the input vertex list. -/
theorem triangulate_indices (vs : List (Pt2 ℝ)) (poly : Poly ℝ) (hc : Consistent vs poly) :
    ∀ i ∈ triangulate poly, i < vs.length := by
  rw [triangulate_eq]
  intro i hi
  simp only [labels, List.mem_flatMap] at hi
  obtain ⟨t, ht, hit⟩ := hi
  have hm := (clipRun_mem poly.length poly (refCcw poly)).1 t ht
  simp only [triLabels, List.mem_cons, List.not_mem_nil, or_false] at hit
  rcases hit with rfl | rfl | rfl
  · exact (hc _ hm.1).1
  · exact (hc _ hm.2.1).1
  · exact (hc _ hm.2.2).1

/-- **C03, count.** Three indices per vertex removed; at most n-2 triangles. -/
theorem triangulate_length (poly : Poly ℝ) :
    (triangulate poly).length = 3 * (poly.length - (run poly).2.length) :=
  clip_length poly.length poly (refCcw poly)
theorem triangulate_length_le (poly : Poly ℝ) (h : 2 ≤ poly.length) :
    (triangulate poly).length ≤ 3 * (poly.length - 2) := by
  have := clipRun_residual_ge poly.length poly (refCcw poly) ([] : List (Tri3 ℝ)) h
  rw [triangulate_length]; simp only [run]; omega

/-- **C03, orientation.** Every emitted triangle, read off the input vertex list, turns as the polygon does at its
left-most vertex. -/
theorem triangulate_orientation (vs : List (Pt2 ℝ)) (poly : Poly ℝ) (hc : Consistent vs poly) :
    ∀ t ∈ triples (triangulate poly), ∃ i j k, t = [i, j, k] ∧
      isCcw (vs.getD i d0) (vs.getD j d0) (vs.getD k d0) = refCcw poly := by
  rw [triangulate_eq, MeshLemmas.triples_labels]
  intro t ht
  obtain ⟨tr, htr, rfl⟩ := List.mem_map.mp ht
  have hm := (clipRun_mem poly.length poly (refCcw poly)).1 tr htr
  have ho := clipRun_orient poly.length poly (refCcw poly) tr htr
  refine ⟨tr.1.1, tr.2.1.1, tr.2.2.1, rfl, ?_⟩
  rw [(hc _ hm.1).2, (hc _ hm.2.1).2, (hc _ hm.2.2).2]; exact ho

/-- twice the signed areas of the triangles of `out`, summed; `area2`, too, is twice the polygon's -/
noncomputable def sumTri (vs : List (Pt2 ℝ)) (out : List Nat) : ℝ :=
  ((triples out).map fun t =>
    match t with
    | [i, j, k] => Spec.cross3 (vs.getD i d0) (vs.getD j d0) (vs.getD k d0)
    | _ => 0).sum

theorem sumTri_run (vs : List (Pt2 ℝ)) (poly : Poly ℝ) (hc : Consistent vs poly) :
    sumTri vs (triangulate poly) = ((run poly).1.map triArea2).sum := by
  rw [sumTri, triangulate_eq, MeshLemmas.triples_labels, List.map_map]
  congr 1
  apply List.map_congr_left
  intro tr htr
  have hm := (clipRun_mem poly.length poly (refCcw poly)).1 tr htr
  simp only [Function.comp, triLabels, triArea2]
  rw [(hc _ hm.1).2, (hc _ hm.2.1).2, (hc _ hm.2.2).2]

/-- **C03, area conservation.** Emitted triangles and the part not yet cut add up, in signed area, to the input
polygon — whether or not the run completes. -/
theorem area_conservation (vs : List (Pt2 ℝ)) (poly : Poly ℝ) (hc : Consistent vs poly) :
    area2 (pts poly) = sumTri vs (triangulate poly) + area2 (pts (run poly).2) := by
  rw [sumTri_run vs poly hc]
  exact clipRun_area poly.length poly (refCcw poly)

/-- **C03, complete runs.** n-2 triangles: their signed areas sum to exactly the polygon's. -/
theorem complete_area (vs : List (Pt2 ℝ)) (poly : Poly ℝ) (hc : Consistent vs poly)
    (hn : 3 ≤ poly.length) (hcomplete : (triangulate poly).length = 3 * (poly.length - 2)) :
    sumTri vs (triangulate poly) = area2 (pts poly) := by
  have hres : (run poly).2.length = 2 := complete_residual poly (refCcw poly) (by omega) hcomplete
  rw [area_conservation vs poly hc, area2_short (pts (run poly).2) (by rw [pts_length, hres]; omega), add_zero]

/-- … per output of the entry point -/
theorem complete_area2d {vs : List (Pt2 ℝ)} {out : List Nat} (h : triangulate2d vs = some out)
    (hcomplete : out.length = 3 * (vs.length - 2)) : sumTri vs out = area2 vs := by
  obtain ⟨hn, rfl⟩ := tri2d_eq h
  exact (complete_area vs (indexed vs) (indexed_consistent vs) (by rw [indexed_length]; omega)
    (by rwa [indexed_length])).trans (congrArg area2 (pts_indexed vs))

/-- With `complete_area`: the polygon's area is the sum of the (unsigned) triangle areas, so the triangles cannot
overlap without failing to cover, and conversely. -/
theorem complete_ccw_positive (vs : List (Pt2 ℝ)) (poly : Poly ℝ) (hc : Consistent vs poly)
    (hccw : refCcw poly = true) :
    ∀ t ∈ triples (triangulate poly), ∃ i j k, t = [i, j, k] ∧
      0 < Spec.cross3 (vs.getD i d0) (vs.getD j d0) (vs.getD k d0) := by
  intro t ht
  obtain ⟨i, j, k, rfl, h⟩ := triangulate_orientation vs poly hc t ht
  rw [hccw, isCcw_iff] at h
  exact ⟨i, j, k, rfl, h⟩

/-- **C03, edge certificate of complete runs.** The directed edges of n-2 emitted triangles are the polygon's boundary
edges (in list direction, as often as the outline has them) plus edges matched by their reverse — for every input,
simple or not.  Against the certificate the oracle evaluates (`Spec.tilingEdges`, n-2 same-signed triangles, areas),
this with `complete_area` and `triangulate_orientation` lacks what `tilingEdges` demands beyond the pairing — no
directed edge twice, no diagonal the reverse of a boundary edge — and "no two triangles overlap", which for
same-signed triangles whose areas sum to the polygon's is covering.  `ringF n 0`: the ring 0→1→…→n−1→0;
`EdgeClosed es`: every edge as often as its reverse (Lemmas/MeshLemmas.lean).  Per output of the entry points:
`C04.cap2d_forward`, `cap2d_backward`. -/
theorem complete_edges (vs : List (Pt2 ℝ)) (hn : 2 ≤ vs.length)
    (hc : (triangulate (indexed vs)).length = 3 * (vs.length - 2)) :
    MeshLemmas.EdgeClosed (allEdges (Dim3.triFaces 0 (triangulate (indexed vs))) ++
      (MeshLemmas.ringF vs.length 0).map Prod.swap) := by
  simpa only [MeshLemmas.map_shift_zero] using MeshLemmas.cap_forward vs 0 hn hc
/-- … and for the reversed list (`triangulate2d_rev`): the boundary is the ring backwards -/
theorem complete_edges_rev (vs : List (Pt2 ℝ)) (hn : 2 ≤ vs.length)
    (hc : (triangulate (indexed vs).reverse).length = 3 * (vs.length - 2)) :
    MeshLemmas.EdgeClosed (allEdges (Dim3.triFaces 0 (triangulate (indexed vs).reverse)) ++
      MeshLemmas.ringF vs.length 0) :=
  MeshLemmas.cap_backward vs hn hc

/-- **C03 on convex polygons — total.** Both entry points return exactly n-2 triangles, so the theorems above
hold without a hypothesis. -/
theorem convex_complete (ccw : Bool) (vs : List (Pt2 ℝ)) (hn : 3 < vs.length) (hc : ConvexPos ccw vs) :
    (∃ out, triangulate2d vs = some out ∧ out.length = 3 * (vs.length - 2)) ∧
    (∃ out, triangulate2dRev vs = some out ∧ out.length = 3 * (vs.length - 2)) :=
  ⟨⟨_, if_pos hn, convex_complete2d ccw hc (.inl (if_pos hn))⟩,
    ⟨_, if_pos hn, convex_complete2d ccw hc (.inr (if_pos hn))⟩⟩

/-- **C03 on convex polygons, functionally.** `triangulate2d` returns the fan from the last vertex:
`n-1, 0, 1,  n-1, 1, 2,  …,  n-1, n-3, n-2`. -/
theorem convex_fan (ccw : Bool) (vs : List (Pt2 ℝ)) (hn : 3 < vs.length) (hc : ConvexPos ccw vs) :
    triangulate2d vs = some (labels (fanAux (vAt (indexed vs) (vs.length - 1)) (indexed vs))) := by
  have := triangulate_convex_fan ccw (indexed vs) (by rw [indexed_length]; omega) (by rw [pts_indexed]; exact hc)
  rw [indexed_length] at this
  simp [triangulate2d, hn, this]

/-- the public entry points: `none` is the `assert!` on fewer than four vertices -/
theorem triangulate2d_spec (vs : List (Pt2 ℝ)) :
    (triangulate2d vs = none ↔ vs.length ≤ 3) ∧
    (∀ out, triangulate2d vs = some out → (∀ i ∈ out, i < vs.length) ∧ out.length ≤ 3 * (vs.length - 2)) ∧
    (∀ out, triangulate2dRev vs = some out → (∀ i ∈ out, i < vs.length) ∧ out.length ≤ 3 * (vs.length - 2)) := by
  -- either entry point runs the loop on a polygon of `vs.length` vertices whose labels are positions in `vs`
  have key : ∀ poly : Poly ℝ, Consistent vs poly → poly.length = vs.length → 3 < vs.length →
      (∀ i ∈ triangulate poly, i < vs.length) ∧ (triangulate poly).length ≤ 3 * (vs.length - 2) :=
    fun poly hc hl hn => ⟨triangulate_indices vs poly hc, hl ▸ triangulate_length_le poly (by omega)⟩
  refine ⟨?_, fun out h => ?_, fun out h => ?_⟩
  · unfold triangulate2d; split <;> simp <;> omega
  · obtain ⟨hn, rfl⟩ := tri2d_eq h
    exact key _ (indexed_consistent vs) (indexed_length vs) hn
  · obtain ⟨hn, rfl⟩ := tri2dRev_eq h
    exact key _ (reverse_consistent vs _ (indexed_consistent vs))
      (List.length_reverse.trans (indexed_length vs)) hn

end ScadVerif.C03
