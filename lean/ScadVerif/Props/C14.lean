/-
C14 — a `center` flag only translates the part.
For every builder taking the flag the centred result is, syntactically, the un-centred one wrapped in one
`translate([0, 0, -H/2])`.  The model (Model/Parts.lean) builds bolt and nut as an un-centred core, which does
not take the flag, then one centring step.
-/
import ScadVerif.Model.Parts
import ScadVerif.Lemmas.ThreadLookup
set_option linter.unusedSectionVars false
namespace ScadVerif.C14
open ScadVerif ScadVerif.Thread ScadVerif.Parts

section Generic
variable {α : Type} [Add α] [Sub α] [Mul α] [Div α] [Neg α] [OfNat α 0] [OfNat α 1]
  [OfNatCast α] [Trig α] [Cmp α] [HasAbs α] [HasSqrt α] [HasTrunc α]

/-- `threaded_cylinder` (hence `threaded_rod` and `tap`) -/
theorem threadedCylinder_center (dMin dMaj pitch length : α) (seg : Nat) (li lo : α) (left : Bool) :
    threadedCylinder dMin dMaj pitch length seg li lo left true =
      (threadedCylinder dMin dMaj pitch length seg li lo left false).map
        fun t => translate ⟨0, 0, -length / lit 2⟩ [t] := by
  simp only [threadedCylinder]
  cases threadedCylinderCore dMin dMaj pitch length seg li lo left <;> rfl

theorem threadedRod_center (m : Int) (length : α) (seg : Nat) (li lo : α) (left : Bool) :
    threadedRod m length seg li lo left true =
      (threadedRod m length seg li lo left false).map fun t => translate ⟨0, 0, -length / lit 2⟩ [t] := by
  simp only [threadedRod]
  cases lookup m with
  | none => rfl
  | some r => exact threadedCylinder_center _ _ _ _ _ _ _ _

theorem tap_center (m : Int) (length : α) (seg : Nat) (left : Bool) :
    tap m length seg left true =
      (tap m length seg left false).map fun t => translate ⟨0, 0, -length / lit 2⟩ [t] := by
  simp only [tap]
  cases lookup m with
  | none => rfl
  | some r => exact threadedCylinder_center _ _ _ _ _ _ _ _

/-- `hex_bolt`: total height is head + thread length -/
theorem hexBolt_center (m : Int) (length head : α) (seg : Nat) (li : α) (chamfered left : Bool) :
    hexBolt m length head seg li chamfered left true =
      (hexBolt m length head seg li chamfered left false).map
        fun t => translate ⟨0, 0, -((head + length) / lit 2)⟩ [t] := by
  simp only [hexBolt]
  cases hexBoltCore m length head seg li chamfered left <;> rfl

theorem hexNut_center (m : Int) (height : α) (seg : Nat) (chamfered left : Bool) :
    hexNut m height seg chamfered left true =
      (hexNut m height seg chamfered left false).map fun t => translate ⟨0, 0, -height / lit 2⟩ [t] := by
  simp only [hexNut]
  cases hexNutCore m height seg chamfered left <;> rfl

/-- nothing inside the part depends on the flag -/
theorem hexBolt_uncentred (m : Int) (length head : α) (seg : Nat) (li : α) (chamfered left : Bool) :
    hexBolt m length head seg li chamfered left false = hexBoltCore m length head seg li chamfered left := by
  simp only [hexBolt]; cases hexBoltCore m length head seg li chamfered left <;> rfl
theorem hexNut_uncentred (m : Int) (height : α) (seg : Nat) (chamfered left : Bool) :
    hexNut m height seg chamfered left false = hexNutCore m height seg chamfered left := by
  simp only [hexNut]; cases hexNutCore m height seg chamfered left <;> rfl

theorem externalCylinderChamfer_center (size over radius height : α) (seg : Nat) :
    externalCylinderChamfer size over radius height seg true =
      translate ⟨0, 0, -height / lit 2⟩ [externalCylinderChamfer size over radius height seg false] := rfl

end Generic

/-- the table lookup the four thread parts start with succeeds for every size (whether a part is returned then
depends on the mesh builder's and the cylinder's own guards) -/
theorem lookup_total (m : Int) : (lookup m).isSome = true :=
  ThreadLookup.lookupFrom_some _ (by split <;> omega)

end ScadVerif.C14
