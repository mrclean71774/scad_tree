/-
C11 — Pt2/Pt3/Pt4 arithmetic is component-wise vector arithmetic.

About Model/Pt.lean.  Over a field: what each operator, index, `dot` / `cross` / `lerp`, conversion and
list wrapper is in components, and the vector-space laws that follow.  Over ℝ: `len` and `normalized`;
`pt?_len2`, `pt?_len_sq`, `pt?_len_pos` restate Lemmas/PtReal.lean under this property's names.
Floating-point rounding is outside these statements (DESIGN §3.3).
-/
import ScadVerif.Lemmas.PtReal
set_option linter.unusedSectionVars false
namespace ScadVerif.C11
open ScadVerif

section Components
variable {α : Type} [Field α]

theorem pt2_add (a b : Pt2 α) : a + b = ⟨a.x + b.x, a.y + b.y⟩ := rfl
theorem pt2_sub (a b : Pt2 α) : a - b = ⟨a.x - b.x, a.y - b.y⟩ := rfl
theorem pt2_smul (a : Pt2 α) (k : α) : a * k = ⟨a.x * k, a.y * k⟩ := rfl
theorem pt2_sdiv (a : Pt2 α) (k : α) : a / k = ⟨a.x / k, a.y / k⟩ := rfl
theorem pt2_neg (a : Pt2 α) : -a = ⟨-a.x, -a.y⟩ := by
  show Pt2.smul a (-1) = _; simp only [Pt2.smul, mul_neg_one]

theorem pt3_add (a b : Pt3 α) : a + b = ⟨a.x + b.x, a.y + b.y, a.z + b.z⟩ := rfl
theorem pt3_sub (a b : Pt3 α) : a - b = ⟨a.x - b.x, a.y - b.y, a.z - b.z⟩ := rfl
theorem pt3_smul (a : Pt3 α) (k : α) : a * k = ⟨a.x * k, a.y * k, a.z * k⟩ := rfl
theorem pt3_sdiv (a : Pt3 α) (k : α) : a / k = ⟨a.x / k, a.y / k, a.z / k⟩ := rfl
theorem pt3_neg (a : Pt3 α) : -a = ⟨-a.x, -a.y, -a.z⟩ := by
  show Pt3.smul a (-1) = _; simp only [Pt3.smul, mul_neg_one]

theorem pt4_add (a b : Pt4 α) : a + b = ⟨a.x + b.x, a.y + b.y, a.z + b.z, a.w + b.w⟩ := rfl
theorem pt4_sub (a b : Pt4 α) : a - b = ⟨a.x - b.x, a.y - b.y, a.z - b.z, a.w - b.w⟩ := rfl
theorem pt4_smul (a : Pt4 α) (k : α) : a * k = ⟨a.x * k, a.y * k, a.z * k, a.w * k⟩ := rfl
theorem pt4_sdiv (a : Pt4 α) (k : α) : a / k = ⟨a.x / k, a.y / k, a.z / k, a.w / k⟩ := rfl
theorem pt4_neg (a : Pt4 α) : -a = ⟨-a.x, -a.y, -a.z, -a.w⟩ := by
  show Pt4.smul a (-1) = _; simp only [Pt4.smul, mul_neg_one]

theorem pt2_sub_eq_add_neg (a b : Pt2 α) : a - b = a + -b := by
  rw [pt2_neg, pt2_sub, pt2_add]; simp only [sub_eq_add_neg]
theorem pt3_sub_eq_add_neg (a b : Pt3 α) : a - b = a + -b := by
  rw [pt3_neg, pt3_sub, pt3_add]; simp only [sub_eq_add_neg]
theorem pt4_sub_eq_add_neg (a b : Pt4 α) : a - b = a + -b := by
  rw [pt4_neg, pt4_sub, pt4_add]; simp only [sub_eq_add_neg]

theorem pt2_add_sub_cancel (a b : Pt2 α) : a + b - b = a := by
  rw [pt2_add, pt2_sub]; simp only [add_sub_cancel_right]
theorem pt3_add_sub_cancel (a b : Pt3 α) : a + b - b = a := by
  rw [pt3_add, pt3_sub]; simp only [add_sub_cancel_right]
theorem pt4_add_sub_cancel (a b : Pt4 α) : a + b - b = a := by
  rw [pt4_add, pt4_sub]; simp only [add_sub_cancel_right]

theorem pt2_smul_sdiv (a : Pt2 α) {k : α} (hk : k ≠ 0) : a * k / k = a := by
  rw [pt2_smul, pt2_sdiv]; simp only [mul_div_cancel_right₀ _ hk]
theorem pt3_smul_sdiv (a : Pt3 α) {k : α} (hk : k ≠ 0) : a * k / k = a := by
  rw [pt3_smul, pt3_sdiv]; simp only [mul_div_cancel_right₀ _ hk]
theorem pt4_smul_sdiv (a : Pt4 α) {k : α} (hk : k ≠ 0) : a * k / k = a := by
  rw [pt4_smul, pt4_sdiv]; simp only [mul_div_cancel_right₀ _ hk]

theorem pt2_sdiv_eq_smul_inv (a : Pt2 α) (k : α) : a / k = a * k⁻¹ := by
  rw [pt2_smul, pt2_sdiv]; simp only [div_eq_mul_inv]
theorem pt3_sdiv_eq_smul_inv (a : Pt3 α) (k : α) : a / k = a * k⁻¹ := by
  rw [pt3_smul, pt3_sdiv]; simp only [div_eq_mul_inv]
theorem pt4_sdiv_eq_smul_inv (a : Pt4 α) (k : α) : a / k = a * k⁻¹ := by
  rw [pt4_smul, pt4_sdiv]; simp only [div_eq_mul_inv]

theorem pt2_smul_add (a b : Pt2 α) (k : α) : (a + b) * k = a * k + b * k := by
  simp only [pt2_add, pt2_smul, add_mul]
theorem pt3_smul_add (a b : Pt3 α) (k : α) : (a + b) * k = a * k + b * k := by
  simp only [pt3_add, pt3_smul, add_mul]
theorem pt4_smul_add (a b : Pt4 α) (k : α) : (a + b) * k = a * k + b * k := by
  simp only [pt4_add, pt4_smul, add_mul]

/-! indexing: `none` is the panic out of range -/

theorem pt2_get (a : Pt2 α) : a.get? 0 = some a.x ∧ a.get? 1 = some a.y ∧ ∀ i, 2 ≤ i → a.get? i = none := by
  refine ⟨rfl, rfl, fun i hi => ?_⟩
  match i, hi with
  | i + 2, _ => rfl
theorem pt3_get (a : Pt3 α) :
    a.get? 0 = some a.x ∧ a.get? 1 = some a.y ∧ a.get? 2 = some a.z ∧ ∀ i, 3 ≤ i → a.get? i = none := by
  refine ⟨rfl, rfl, rfl, fun i hi => ?_⟩
  match i, hi with
  | i + 3, _ => rfl
theorem pt4_get (a : Pt4 α) :
    a.get? 0 = some a.x ∧ a.get? 1 = some a.y ∧ a.get? 2 = some a.z ∧ a.get? 3 = some a.w ∧
      ∀ i, 4 ≤ i → a.get? i = none := by
  refine ⟨rfl, rfl, rfl, rfl, fun i hi => ?_⟩
  match i, hi with
  | i + 4, _ => rfl

theorem pt2_get_set (a : Pt2 α) (i j : Nat) (v : α) (hi : i < 2) (hj : j < 2) :
    (a.set? i v).bind (·.get? j) = if j = i then some v else a.get? j := by
  have : i = 0 ∨ i = 1 := by omega
  have : j = 0 ∨ j = 1 := by omega
  rcases ‹i = 0 ∨ i = 1› with rfl | rfl <;> rcases ‹j = 0 ∨ j = 1› with rfl | rfl <;> rfl
theorem pt3_get_set (a : Pt3 α) (i j : Nat) (v : α) (hi : i < 3) (hj : j < 3) :
    (a.set? i v).bind (·.get? j) = if j = i then some v else a.get? j := by
  have hi' : i = 0 ∨ i = 1 ∨ i = 2 := by omega
  have hj' : j = 0 ∨ j = 1 ∨ j = 2 := by omega
  rcases hi' with rfl | rfl | rfl <;> rcases hj' with rfl | rfl | rfl <;> rfl
theorem pt4_get_set (a : Pt4 α) (i j : Nat) (v : α) (hi : i < 4) (hj : j < 4) :
    (a.set? i v).bind (·.get? j) = if j = i then some v else a.get? j := by
  have hi' : i = 0 ∨ i = 1 ∨ i = 2 ∨ i = 3 := by omega
  have hj' : j = 0 ∨ j = 1 ∨ j = 2 ∨ j = 3 := by omega
  rcases hi' with rfl | rfl | rfl | rfl <;> rcases hj' with rfl | rfl | rfl | rfl <;> rfl
theorem pt2_set_out_of_range (a : Pt2 α) (i : Nat) (v : α) (hi : 2 ≤ i) : a.set? i v = none := by
  match i, hi with
  | i + 2, _ => rfl
theorem pt3_set_out_of_range (a : Pt3 α) (i : Nat) (v : α) (hi : 3 ≤ i) : a.set? i v = none := by
  match i, hi with
  | i + 3, _ => rfl
theorem pt4_set_out_of_range (a : Pt4 α) (i : Nat) (v : α) (hi : 4 ≤ i) : a.set? i v = none := by
  match i, hi with
  | i + 4, _ => rfl

theorem pt2_dot (a b : Pt2 α) : a.dot b = a.x * b.x + a.y * b.y := rfl
theorem pt3_dot (a b : Pt3 α) : a.dot b = a.x * b.x + a.y * b.y + a.z * b.z := rfl
/-- `Pt4::dot` ignores `w` -/
theorem pt4_dot_xyz (a b : Pt4 α) : a.dot b = a.asPt3.dot b.asPt3 := rfl
theorem pt2_len2 (a : Pt2 α) : a.len2 = a.x ^ 2 + a.y ^ 2 := Pt2.len2_eq a
theorem pt3_len2 (a : Pt3 α) : a.len2 = a.x ^ 2 + a.y ^ 2 + a.z ^ 2 := Pt3.len2_eq a
theorem pt4_len2_xyz (a : Pt4 α) : a.len2 = a.asPt3.len2 := rfl

theorem pt3_cross_perp_left (a b : Pt3 α) : (a.cross b).dot a = 0 := by
  simp only [Pt3.cross, Pt3.dot]; ring
theorem pt3_cross_perp_right (a b : Pt3 α) : (a.cross b).dot b = 0 := by
  simp only [Pt3.cross, Pt3.dot]; ring
theorem pt3_lagrange (a b : Pt3 α) :
    (a.cross b).len2 = a.len2 * b.len2 - (a.dot b) ^ 2 := by
  simp only [Pt3.cross, Pt3.dot, Pt3.len2]; ring
theorem pt3_cross_anticomm (a b : Pt3 α) : a.cross b = -(b.cross a) := by
  rw [pt3_neg]; simp only [Pt3.cross]; congr 1 <;> ring

theorem pt4_cross_xyz (a b : Pt4 α) : (a.cross b).asPt3 = a.asPt3.cross b.asPt3 := rfl
theorem pt4_cross_w (a b : Pt4 α) : (a.cross b).w = 0 := rfl
theorem pt4_cross_perp_left (a b : Pt4 α) : (a.cross b).dot a = 0 := by
  simp only [Pt4.cross, Pt4.dot]; ring
theorem pt4_cross_perp_right (a b : Pt4 α) : (a.cross b).dot b = 0 := by
  simp only [Pt4.cross, Pt4.dot]; ring
theorem pt4_lagrange (a b : Pt4 α) :
    (a.cross b).len2 = a.len2 * b.len2 - (a.dot b) ^ 2 := by
  simp only [Pt4.cross, Pt4.dot, Pt4.len2]; ring

theorem pt2_lerp_zero (a b : Pt2 α) : a.lerp b 0 = a := by
  simp [Pt2.lerp, Pt2.add, Pt2.smul, Pt2.sub]
theorem pt2_lerp_one (a b : Pt2 α) : a.lerp b 1 = b := by
  simp [Pt2.lerp, Pt2.add, Pt2.smul, Pt2.sub]
theorem pt3_lerp_zero (a b : Pt3 α) : a.lerp b 0 = a := by
  simp [Pt3.lerp, Pt3.add, Pt3.smul, Pt3.sub]
theorem pt3_lerp_one (a b : Pt3 α) : a.lerp b 1 = b := by
  simp [Pt3.lerp, Pt3.add, Pt3.smul, Pt3.sub]
theorem pt4_lerp_zero (a b : Pt4 α) : a.lerp b 0 = a := by
  simp [Pt4.lerp, Pt4.add, Pt4.smul, Pt4.sub]
theorem pt4_lerp_one (a b : Pt4 α) : a.lerp b 1 = b := by
  simp [Pt4.lerp, Pt4.add, Pt4.smul, Pt4.sub]
theorem pt3_lerp_affine (a b : Pt3 α) (t : α) :
    a.lerp b t = a * (1 - t) + b * t := by
  simp only [Pt3.lerp, pt3_add, pt3_smul, Pt3.add, Pt3.smul, Pt3.sub]; congr 1 <;> ring

theorem toXz_slots (a : Pt2 α) : a.toXz = ⟨a.x, 0, a.y⟩ := rfl
theorem asPt3_slots (a : Pt2 α) (z : α) : a.asPt3 z = ⟨a.x, a.y, z⟩ := rfl
theorem asPt4_slots (a : Pt3 α) (w : α) : a.asPt4 w = ⟨a.x, a.y, a.z, w⟩ := rfl
theorem pt4_asPt3_slots (a : Pt4 α) : a.asPt3 = ⟨a.x, a.y, a.z⟩ := rfl
theorem asPt4_asPt3 (a : Pt3 α) (w : α) : (a.asPt4 w).asPt3 = a := rfl

theorem pt2s_translate_length (ps : List (Pt2 α)) (d : Pt2 α) :
    (Pt2s.translate ps d).length = ps.length := by simp [Pt2s.translate]
theorem pt2s_translate_get (ps : List (Pt2 α)) (d : Pt2 α) (i : Nat) :
    (Pt2s.translate ps d)[i]? = (ps[i]?).map (· + d) := by simp [Pt2s.translate]; rfl
theorem pt3s_translate_length (ps : List (Pt3 α)) (d : Pt3 α) :
    (Pt3s.translate ps d).length = ps.length := by simp [Pt3s.translate]
theorem pt3s_translate_get (ps : List (Pt3 α)) (d : Pt3 α) (i : Nat) :
    (Pt3s.translate ps d)[i]? = (ps[i]?).map (· + d) := by simp [Pt3s.translate]; rfl
theorem pt3s_fromPt2s_get (ps : List (Pt2 α)) (z : α) (i : Nat) :
    (Pt3s.fromPt2s ps z)[i]? = (ps[i]?).map (fun p => ⟨p.x, p.y, z⟩) := by
  simp [Pt3s.fromPt2s]; rfl
theorem pt2s_translate_nil (d : Pt2 α) : Pt2s.translate ([] : List (Pt2 α)) d = [] := rfl
theorem pt3s_translate_nil (d : Pt3 α) : Pt3s.translate ([] : List (Pt3 α)) d = [] := rfl

end Components

section Real

theorem pt2_len_sq (a : Pt2 ℝ) : a.len ^ 2 = a.len2 := Pt2.len_sq a
theorem pt3_len_sq (a : Pt3 ℝ) : a.len ^ 2 = a.len2 := Pt3.len_sq a
theorem pt2_len_pos {a : Pt2 ℝ} (h : a ≠ ⟨0, 0⟩) : 0 < a.len := Pt2.len_pos h
theorem pt3_len_pos {a : Pt3 ℝ} (h : a ≠ ⟨0, 0, 0⟩) : 0 < a.len := Pt3.len_pos h

theorem pt2_normalized_eq (a : Pt2 ℝ) : a.normalized = a * (1 / a.len) := by
  simp only [Pt2.normalized, pt2_smul, mul_one_div]
theorem pt3_normalized_eq (a : Pt3 ℝ) : a.normalized = a * (1 / a.len) := by
  simp only [Pt3.normalized, pt3_smul, mul_one_div]
/-- `normalize` is the in-place form -/
theorem pt2_normalize_eq (a : Pt2 ℝ) : a.normalize = a.normalized := rfl
theorem pt3_normalize_eq (a : Pt3 ℝ) : a.normalize = a.normalized := rfl

theorem pt2_len_normalized {a : Pt2 ℝ} (h : a ≠ ⟨0, 0⟩) : a.normalized.len = 1 := by
  simp [Pt2.len, Pt2.normalized_len2 h]
theorem pt3_len_normalized {a : Pt3 ℝ} (h : a ≠ ⟨0, 0, 0⟩) : a.normalized.len = 1 := by
  simp [Pt3.len, Pt3.normalized_len2 h]

theorem pt4_normalized_xyz (a : Pt4 ℝ) : a.normalized.asPt3 = a.asPt3.normalized := rfl
theorem pt4_normalized_w (a : Pt4 ℝ) : a.normalized.w = 0 := rfl
theorem pt4_len_xyz (a : Pt4 ℝ) : a.len = a.asPt3.len := rfl
/-- in place, `w` is divided by the length too (`Pt4.normalize`, Model/Pt.lean), not cleared; no theorem states it -/
theorem pt4_normalize_xyz (a : Pt4 ℝ) : a.normalize.asPt3 = a.normalized.asPt3 := rfl

/-- `h` of `pt2_len_pos`, `pt2_len_normalized` -/
example : (⟨3, 4⟩ : Pt2 ℝ) ≠ ⟨0, 0⟩ := by
  intro h; have := congrArg Pt2.x h; norm_num at this

end Real
end ScadVerif.C11
