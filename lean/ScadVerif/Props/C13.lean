/-
C13 — a saved file is exactly the global settings plus the emitted trees.

`fileContent` (Model/Scad.lean) models what the five `scad_file!` arms write, `saveContent` what `Scad::save` writes
(tied to the Rust code in Tie/File.lean; Props/SrcC13.lean restates the headline about three of the arms).
`fileContent_parses` peels the settings lines, an assignment at a time, down to the statement loop of
Lemmas/Parser.lean.  File system and thread are outside every theorem.
-/
import ScadVerif.Props.C01
namespace ScadVerif.C13
open ScadVerif ScadVerif.Spec ScadVerif.ParserLemmas

variable {ν : Type} (showNum : ν → List Char)

theorem save_eq (t : Scad ν) : saveContent showNum t = fileContent showNum .none [t] := by
  simp [saveContent, fileContent, Settings.lines, emitAll]

theorem fileContent_append (g : Settings ν) (a b : List (Scad ν)) :
    fileContent showNum g (a ++ b) = fileContent showNum g a ++ emitAll showNum b := by
  simp [fileContent, emitAll]

theorem fileContent_none (cs : List (Scad ν)) : fileContent showNum .none cs = emitAll showNum cs := by
  simp [fileContent, Settings.lines]

def settingTops : Settings ν → List Top
  | .none => []
  | .fa a => [.assign c!"$fa" (.num (showNum a))]
  | .fs s => [.assign c!"$fs" (.num (showNum s))]
  | .faFs a s => [.assign c!"$fa" (.num (showNum a)), .assign c!"$fs" (.num (showNum s))]
  | .fn n => [.assign c!"$fn" (.num (natDigits n))]

/-- (name, printed value) of each settings line: the shape common to `Settings.lines` (`lines_eq`) and `settingTops`
(`settingTops_eq`), for `assigns_parse` to recurse on -/
def settingPairs : Settings ν → List (List Char × List Char)
  | .none => []
  | .fa a => [(c!"$fa", showNum a)]
  | .fs s => [(c!"$fs", showNum s)]
  | .faFs a s => [(c!"$fa", showNum a), (c!"$fs", showNum s)]
  | .fn n => [(c!"$fn", natDigits n)]

def settingLine (p : List Char × List Char) : List Char := p.1 ++ '=' :: (p.2 ++ [';', '\n'])

theorem lines_eq (g : Settings ν) : g.lines showNum = (settingPairs showNum g).flatMap settingLine := by
  cases g <;> simp [Settings.lines, settingPairs, settingLine]
theorem settingTops_eq (g : Settings ν) :
    settingTops showNum g = (settingPairs showNum g).map fun p => Top.assign p.1 (.num p.2) := by
  cases g <;> rfl
theorem settingPairs_ok (hnum : ∀ x, IsNumeral (showNum x) = true) (g : Settings ν) :
    ∀ p ∈ settingPairs showNum g, IsIdent p.1 = true ∧ IsNumeral p.2 = true := by
  cases g <;> simp [settingPairs, hnum, natDigits_numeral] <;> decide

/-- The white-space prefix `w` carries the recursion: every line ends in a line feed `pTop` leaves unread, so the next
line (or first child) is met behind `['\n']`. -/
theorem assigns_parse (children : List (Scad ν)) (hok : ∀ t ∈ children, TreeOK showNum t) :
    (ps : List (List Char × List Char)) → (∀ p ∈ ps, IsIdent p.1 = true ∧ IsNumeral p.2 = true) →
    (k : Nat) → (w : List Char) → w.all isWs = true →
    (ps.flatMap settingLine ++ emitAll showNum children).length < k →
    pFileAux k (w ++ (ps.flatMap settingLine ++ emitAll showNum children)) =
      some (ps.map (fun p => Top.assign p.1 (.num p.2)) ++ children.map fun t => Top.stmt (toStmt showNum t))
  | [], _, k, w, hw, hk =>
    pFileAux_emitAll showNum children k hok
      (by have := length_le_emitAll showNum children hok; rw [List.flatMap_nil, List.nil_append] at hk; omega) w hw
  | (n, t) :: ps, hp, k + 1, w, hw, hk => by
    have ih := assigns_parse children hok ps (fun p h => hp p (List.mem_cons_of_mem _ h)) k ['\n'] rfl
      (by simp only [List.flatMap_cons, settingLine, List.length_append, List.length_cons] at hk ⊢; omega)
    simp only [List.flatMap_cons, settingLine, List.append_assoc, List.cons_append, List.nil_append]
    rw [pFileAux_assign_step k w n t _ hw (hp _ (List.mem_cons_self ..)).1 (hp _ (List.mem_cons_self ..)).2]
    exact congrArg _ ih

/-- **C13.** For every `scad_file!` form, setting value and list of well-formed trees, the file content parses as one
assignment per global setting given, with the exact printed value, then exactly the children as top-level statements
in the written order — and nothing else. -/
theorem fileContent_parses (hnum : ∀ x, IsNumeral (showNum x) = true) (g : Settings ν)
    (children : List (Scad ν)) (hwf : ∀ t ∈ children, C01.WellFormed showNum t) :
    parseFile (fileContent showNum g children) =
      some (settingTops showNum g ++ children.map fun t => Top.stmt (toStmt showNum t)) := by
  rw [parseFile, fileContent, lines_eq, settingTops_eq]
  exact assigns_parse showNum children (fun t ht => C01.treeOK_of_wellFormed showNum hnum t (hwf t ht)) _
    (settingPairs_ok showNum hnum g) _ [] rfl (Nat.lt_succ_self _)

end ScadVerif.C13
